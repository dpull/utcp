import Utcp.Lemmas.RecvSide
/-!
# What `ReceivedPacket` appends to the log, for any event predicate that tolerates it

`RecvPred P`: `P` holds of allocator events and of receive callbacks with `1 ≤ count ≤ 256`: that is all the bunch loop logs.
`NotifPred P`: `P` holds of delivery statuses, datagrams and node releases: that is all the notification handler logs.
Instances: `RecvOK` (C09: callback arguments are valid), `NoStat` (C02: no status is logged), the trivial predicate (C10).
-/
namespace Utcp
open Gen

structure RecvPred (P : Event → Prop) : Prop where
  free : ∀ k, P (.free k)
  alloc : ∀ k, P (.alloc k)
  realloc : ∀ k, P (.realloc k)
  recv : ∀ g : List Bunch, 1 ≤ g.length → g.length ≤ 256 → P (.recv g)

theorem RecvPred.mem {P : Event → Prop} (hP : RecvPred P) (ev : Event) (h : isMem ev) : P ev := by
  cases ev with
  | free k => exact hP.free k
  | alloc k => exact hP.alloc k
  | realloc k => exact hP.realloc k
  | _ => cases h

structure NotifPred (P : Event → Prop) : Prop where
  status : ∀ p a, P (.status p a)
  out : ∀ ev, isOut ev → P ev
  freeNode : ∀ ev, isFreeNode ev → P ev

variable {P : Event → Prop}

theorem adds_nclosed (hP : NotifPred P) (e : Env) : NClosed e (Adds P) :=
  (adds_sclosed e (fun _ => hP.out _ trivial)).toNClosed (fun c => Adds.emit c _ (hP.freeNode _ trivial)) (fun _ => Adds.of_log_eq rfl)
    (fun _ => Adds.of_log_eq rfl) (fun c p v => Adds.emit c _ (hP.status p v)) (fun _ _ _ _ _ => Adds.of_log_eq rfl)

/-- a step of the receive path makes at most one callback, with `1 ≤ count ≤ 256` (an over-long group is dropped instead) -/
theorem RStep.adds_pred {B : Bunch → Prop} (hP : RecvPred P) {δ : Int} {a b : Conn} (s : RStep B δ a b) : Adds P a b :=
  s.adds hP.mem (fun _ bn _ _ _ => hP.recv [bn] (by simp) (by simp))
    (fun _ x _ _ hl _ hlen => hP.recv _ (by cases h : x.inPartial with | nil => simp [h] at hl | cons _ _ => simp)
      (by have : maxGroup = 256 := by decide
          omega))

theorem RSteps.adds_pred {B : Bunch → Prop} (hP : RecvPred P) {δ : Int} {a b : Conn} (s : RSteps B δ a b) : Adds P a b :=
  s.rel (Adds.refl P) Adds.trans (fun s => s.adds_pred hP)

theorem receivedRawBunch_adds (hP : RecvPred P) (c : Conn) (bits : Bits) : Adds P c (c.receivedRawBunch bits).1 :=
  (receivedRawBunch_steps (B := fun _ => True) c bits (fun _ _ => trivial)).adds_pred hP

theorem bunchLoop_adds (hP : RecvPred P) (fuel : Nat) (c : Conn) (bits : Bits) (skip : Bool) : Adds P c (Conn.bunchLoop fuel c bits skip).1 :=
  (bunchLoop_steps fuel c bits skip).adds_pred hP

/-- `ReceivedNextBunch` on any bunch, whether or not it is the next one of its channel -/
theorem receivedNextBunch_adds (hP : RecvPred P) (c : Conn) (b : Bunch) : Adds P c (c.receivedNextBunch b).1 := by
  unfold Conn.receivedNextBunch
  cases hx : c.getChan b.chIndex with
  | none => exact Adds.emit _ _ (hP.free _)
  | some x =>
    dsimp only
    rw [show (if b.bReliable = true then ({ x with inReliable := b.chSeq } : Channel) else x) = x.took b from rfl]
    have set : ∀ y, Adds P c (c.setChan b.chIndex y) := setChan_adds P c b.chIndex
    have setF : ∀ y, Adds P c ((c.freeNodes (x.took b).inPartial.length).setChan b.chIndex y) := fun y =>
      (freeNodes_adds (hP.free _) c _).trans (setChan_adds P _ _ y)
    by_cases hp : b.bPartial = true
    · rw [if_pos hp]
      rcases mergePartial_cases c (x.took b) b with ⟨_, h⟩ | ⟨_, last, hl, _, h⟩ | h | ⟨res, skip, hres, h⟩ <;> rw [h]
      · exact setF _
      · by_cases hf : b.bPartialFinal = true
        · rw [if_pos hf]
          exact (set _).trans ((finishGroup_steps (B := fun _ => True) _ b.chIndex { x.took b with inPartial := (x.took b).inPartial ++ [b] } b
            (getChan_setChan_self _ _ _) (by simp) hf (fun hr => by simp [Channel.took, hr]) false).adds_pred hP)
        · rw [if_neg hf]; exact set _
      · exact (setF _).emit_trans _ (hP.free _)
      · rcases hres with rfl | rfl <;> exact (set _).emit_trans _ (hP.free _)
    · rw [if_neg hp]
      exact (((set _).trans ((adds_cclosed P).noteClose _ b)).emit_trans _ (hP.recv [b] (by simp) (by simp))).emit_trans _ (hP.free _)

theorem receivedPacket_adds (hR : RecvPred P) (hN : NotifPred P) (e : Env) (c : Conn) (bits : Bits) : Adds P c (c.receivedPacket e bits).1 :=
  receivedPacket_closed (Adds.refl P) Adds.trans (markClose_adds P) (adds_nclosed hN e).notifyUpdate (bunchLoop_adds hR)
    (fun _ _ => Adds.of_log_eq rfl) (fun _ _ _ => Adds.of_log_eq rfl) c bits

end Utcp
