import Utcp.Lemmas.Conn
import Utcp.Lemmas.Frame
import Utcp.Lemmas.HsCodec
/-!
# Size and framing of what `utcp_send_flush` and the handshake senders hand to the outgoing callback (one call, any state)

Used by `Lemmas/SendInv.lean` (the invariant over histories); `Props/C18.lean` restates the theorems under the property's name and says
there what each claims.
-/
namespace Utcp.Size
open Utcp Utcp.Gen

theorem limits : Gen.UTCP_MAX_PACKET = 1024 ∧ Gen.SIZEOF_SEND_BUFFER = 1024 + 32 + 1 ∧ Gen.UDP_MTU_SIZE = 1452
    ∧ Gen.MAX_PACKET_HEADER_BITS = 308 ∧ Gen.MAX_PACKET_TRAILER_BITS = 1 := by decide

/-- a well-framed datagram: non-empty, last byte non-zero, and `bitbuf_read_init` recovers exactly `payload` -/
def Framed (bytes : List UInt8) (payload : Bits) : Prop :=
  bytes ≠ [] ∧ (∃ init last, bytes = init ++ [last] ∧ last ≠ 0) ∧ readInit bytes = some payload ∧ bytes.length = (payload.length + 1 + 7) / 8

theorem framed_of_terminated (payload : Bits) : Framed (bitsToBytes (payload ++ [true])) payload := by
  obtain ⟨init, last, hb, hl⟩ := bitsToBytes_last_ne_zero payload
  refine ⟨by rw [hb]; simp, ⟨init, last, hb, hl⟩, readInit_bitsToBytes payload, ?_⟩
  rw [bitsToBytes_length]; simp

/-- the bits a flush puts on the wire end in the connection-level terminator and the packet-handler terminator -/
theorem packetBits_terminated (e : Env) (c : Conn) :
    c.packetBits e = (outgoingHeader e c.lastSessionId c.lastClientId false ++ c.finalHeader.2 ++ c.sendBody ++ [true]) ++ [true] :=
  List.append_cons _ true [true]

theorem flush_framed (e : Env) (c : Conn) (h : c.flushDue e = true) :
    ∃ bytes payload, (c.flush e).log = .out bytes :: c.log ∧ Framed bytes payload ∧ payload.getLast? = some true := by
  rw [flush_of_due h, flushNow_log]
  generalize hc' : (if c.sendActive = true then c else c.startPacket) = c'
  have hlog : c'.log = c.log := by rw [← hc']; split <;> simp
  refine ⟨bitsToBytes (c'.packetBits e), outgoingHeader e c'.lastSessionId c'.lastClientId false ++ c'.finalHeader.2 ++ c'.sendBody ++ [true], ?_, ?_, ?_⟩
  · rw [hlog]
  · rw [packetBits_terminated]; exact framed_of_terminated _
  · simp

/-- the notification header is a 32-bit packed word, the history words, and the (cleared) packet-info bit -/
theorem encodeNotifHeader_length (h : NotifHeader) : (encodeNotifHeader h).length = 32 + h.hist.length + 1 := by
  unfold encodeNotifHeader writeU32; simp; omega

theorem headerWith_hist_length (n : Notify) (w : Nat) (hh : n.hist.length = 256) (hw : w ≤ 8) : (n.headerWith w).hist.length = 32 * w := by
  rw [Notify.headerWith, List.length_take, hh, show histWordsMax = 8 from rfl, Nat.min_eq_left hw, Nat.min_eq_left (Nat.mul_le_mul_left 32 hw)]

/-- the clamp in `Notify.curWords`, with the history length rounded up to words named -/
theorem curWords_eq (n : Notify) :
    ∃ w, w = ((if seq_num_greater_equal n.inAckSeq n.inAckSeqAck then (seq_num_diff n.inAckSeq n.inAckSeqAck).toNat else histLen) + 31) / 32 ∧
      n.curWords = if w < 1 then 1 else if w < 8 then w else 8 := ⟨_, rfl, rfl⟩

theorem curWords_range (n : Notify) : 1 ≤ n.curWords ∧ n.curWords ≤ 8 := by
  obtain ⟨w, -, h⟩ := curWords_eq n
  rw [h]
  split
  · omega
  · split <;> omega

theorem finalHeader_same_length (c : Conn) (hh : c.notify.hist.length = 256) (hw : c.notify.writtenWords ≤ 8)
    (hn : c.sendNotif.length = 33 + 32 * c.notify.writtenWords) : c.finalHeader.2.length = c.sendNotif.length := by
  unfold Conn.finalHeader Notify.fillRefresh
  split
  · rename_i n h heq
    split at heq
    · simp at heq
    · simp at heq
      obtain ⟨_, rfl⟩ := heq
      rw [encodeNotifHeader_length, headerWith_hist_length _ _ hh hw, hn]; exact Nat.add_right_comm 32 _ 1
  · rfl

theorem startPacket_header_length (c : Conn) (hh : c.notify.hist.length = 256) :
    c.startPacket.sendNotif.length = 33 + 32 * c.startPacket.notify.writtenWords ∧ c.startPacket.notify.writtenWords ≤ 8
    ∧ c.startPacket.notify.hist.length = 256 := by
  unfold Conn.startPacket Notify.fillFresh
  have hr := curWords_range c.notify
  simp only
  rw [encodeNotifHeader_length, headerWith_hist_length _ _ hh hr.2]
  exact ⟨Nat.add_right_comm 32 _ 1, hr.2, hh⟩

theorem outgoingHeader_length (e : Env) (s cl : Nat) (h : Bool) : (outgoingHeader e s cl h).length = e.outHdrLen := by
  unfold outgoingHeader Env.outHdrLen; simp

theorem packetBits_length (e : Env) (c : Conn) : (c.packetBits e).length = e.outHdrLen + c.finalHeader.2.length + c.sendBody.length + 2 := by
  unfold Conn.packetBits
  simp only [List.length_append, outgoingHeader_length, List.length_cons, List.length_nil]

theorem flush_size (e : Env) (c : Conn) (ha : c.sendActive = true) (hh : c.notify.hist.length = 256) (hw : c.notify.writtenWords ≤ 8)
    (hn : c.sendNotif.length = 33 + 32 * c.notify.writtenWords) (hsz : c.sendBitsNum e ≤ 8191) :
    (bitsToBytes (c.packetBits e)).length ≤ 1025 := by
  rw [Conn.sendBitsNum, if_pos ha] at hsz
  rw [bitsToBytes_length, packetBits_length, finalHeader_same_length c hh hw hn]
  omega

theorem keepalive_size (e : Env) (c : Conn) (hm : e.magicBits ≤ 32) (hh : c.notify.hist.length = 256) :
    (bitsToBytes (c.startPacket.packetBits e)).length ≤ 42 := by
  obtain ⟨h1, h2, h4⟩ := startPacket_header_length c hh
  rw [bitsToBytes_length, packetBits_length, finalHeader_same_length c.startPacket h4 h2 h1, h1, startPacket_sendBody, Env.outHdrLen]
  exact Nat.div_le_of_le_mul (by simp only [List.length_nil]; omega)

theorem ite_sub_le (c : Prop) [Decidable c] (x : Nat) (h : x ≤ 16) : (if c then x - 1 else x) ≤ 16 := by split <;> omega

/-- `CapHandshakePacket` appends a whole number of zero bytes, at most 16, and the terminator bit -/
theorem capHandshake_shape (e : Env) (rng : Rng) (ver : Nat) (bits : Bits) :
    ∃ k, k ≤ 16 ∧ (capHandshake e rng ver bits).2 = bits ++ List.replicate (8 * k) false ++ [true] := by
  unfold capHandshake
  by_cases hv : ver ≥ 1
  · rw [if_pos hv]
    exact ⟨_, ite_sub_le _ _ (Nat.sub_le 16 _), rfl⟩
  · rw [if_neg hv]
    exact ⟨0, Nat.zero_le _, by simp⟩

theorem padding_range (e : Env) (rng : Rng) (bits : Bits) :
    ∃ k, 9 ≤ k ∧ k ≤ 16 ∧ (capHandshake e rng 3 bits).2 = bits ++ List.replicate (8 * k) false ++ [true] :=
  ⟨capLen rng, (capLen_range rng).1, (capLen_range rng).2, cap3 e rng bits⟩

theorem handshake_framed (e : Env) (rng : Rng) (ver : Nat) (bits : Bits) :
    ∃ payload, Framed (bitsBytes (capHandshake e rng ver bits).2) payload := by
  obtain ⟨k, _, hk⟩ := capHandshake_shape e rng ver bits
  unfold bitsBytes
  rw [hk]
  exact ⟨_, framed_of_terminated _⟩

/-! non-vacuity: an idle connected endpoint past its keep-alive interval satisfies the premises -/
example : ({ connected := true } : Conn).flushDue { elapsedUs := 0 } = true := by decide

end Utcp.Size
