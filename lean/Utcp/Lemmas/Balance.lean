import Utcp.Lemmas.RecvOrder
/-!
# Allocation balance

`balK k log` = (number of `alloc k` events) − (number of `free k` events) in the log.  `BInvK c d`: the channel table is sorted
by index without duplicates; the balance of bunch nodes equals the number of nodes held in the channels' three lists plus `d`
(`d = 1` while a freshly parsed bunch is in flight through the receive path, `0` between API calls); the balance of channel
blocks equals the number of channels; the open-channel array is allocated iff its capacity is non-zero.
Every write is an instance of `BInvK.step` (the log grows by `new`, each ledger moves with what it counts); the receive path is accounted for
step by step (`RStep.bal`: the index of a step is what it adds to `d`), the send path and the API calls function by function.
-/
namespace Utcp
open Gen

def balK (k : Kind) : List Event → Int
  | [] => 0
  | .alloc k' :: r => (if k' = k then 1 else 0) + balK k r
  | .free k' :: r => (if k' = k then -1 else 0) + balK k r
  | _ :: r => balK k r

def nodesOf (x : Channel) : Int := (x.inRec.length : Int) + x.outRec.length + x.inPartial.length

def held (l : List (Nat × Channel)) : Int := (l.map (fun p => nodesOf p.2)).sum

theorem balK_append (k : Kind) (a b : List Event) : balK k (a ++ b) = balK k a + balK k b := by
  induction a with
  | nil => simp [balK]
  | cons ev rest ih => cases ev <;> simp only [List.cons_append, balK, ih, Int.add_assoc]

theorem balK_frees (k : Kind) (n : Nat) : balK k (List.replicate n (.free .node)) = if k = .node then -(n : Int) else 0 := by
  induction n with
  | zero => simp [balK]
  | succ n ih => simp only [List.replicate_succ, balK, ih]; cases k <;> simp <;> omega

theorem held_cons (p : Nat × Channel) (l : List (Nat × Channel)) : held (p :: l) = nodesOf p.2 + held l := by
  simp [held]

/-- entering `x'` under `ch` in a sorted table: it takes the place of the channel found there, if any -/
theorem held_insertSorted (ch : Nat) (x' : Channel) (l : List (Nat × Channel)) (hs : KeysSorted l) :
    held (insertSorted ch x' l) = held l - (((l.find? (·.1 == ch)).map (·.2)).map nodesOf).getD 0 + nodesOf x' ∧
    ((insertSorted ch x' l).length : Int) = l.length + (if ((l.find? (·.1 == ch)).map (·.2)).isSome then 0 else 1) := by
  induction l with
  | nil => simp [insertSorted, held]
  | cons kv rest ih =>
    obtain ⟨k, v⟩ := kv
    unfold KeysSorted at hs
    rw [List.pairwise_cons] at hs
    simp only [insertSorted]
    by_cases hlt : ch < k
    · -- `ch` is smaller than every key: it is not in the table
      rw [if_pos hlt, find_none_of_lt ch ((k, v) :: rest) (by
        intro p hp
        rcases List.mem_cons.mp hp with rfl | hp
        · exact hlt
        · exact Nat.lt_trans hlt (hs.1 p hp))]
      simp only [held_cons, List.length_cons, Option.map_none, Option.getD_none, Option.isSome_none]
      exact ⟨by omega, by simp⟩
    · rw [if_neg hlt]
      by_cases heq : ch = k
      · subst heq
        simp only [beq_self_eq_true, if_true, List.find?_cons, Option.map_some, Option.getD_some, Option.isSome_some, held_cons, List.length_cons]
        exact ⟨by omega, by simp⟩
      · have hk : (k == ch) = false := beq_false_of_ne (Ne.symm heq)
        rw [if_neg (by simpa using heq)]
        obtain ⟨i1, i2⟩ := ih hs.2
        simp only [List.find?_cons, hk, held_cons, List.length_cons, i1]
        exact ⟨by omega, by omega⟩

structure BInvK (c : Conn) (d : Int) : Prop where
  sorted : KeysSorted c.chans
  node : balK .node c.log = held c.chans + d
  chan : balK .chan c.log = c.chans.length
  open_ : balK .open_ c.log = if c.openCap > 0 then 1 else 0

theorem BInvK.step {c c' : Conn} {d d' : Int} (h : BInvK c d) (new : List Event) (hl : c'.log = new ++ c.log) (hs : KeysSorted c'.chans)
    (hn : balK .node new + held c.chans + d = held c'.chans + d') (hc : balK .chan new + c.chans.length = c'.chans.length)
    (ho : balK .open_ new + (if c.openCap > 0 then 1 else 0) = if c'.openCap > 0 then 1 else 0) : BInvK c' d' :=
  ⟨hs, by rw [hl, balK_append, h.node]; omega, by rw [hl, balK_append, h.chan]; omega, by rw [hl, balK_append, h.open_]; omega⟩

theorem BInvK.emits {c c' : Conn} {d d' : Int} (h : BInvK c d) (new : List Event) (hl : c'.log = new ++ c.log) (hch : c'.chans = c.chans)
    (hcap : c'.openCap = c.openCap) (hc : balK .chan new = 0) (ho : balK .open_ new = 0) (hd : d' = d + balK .node new) : BInvK c' d' :=
  h.step new hl (hch ▸ h.sorted) (by rw [hch]; omega) (by rw [hch, hc, Int.zero_add]) (by rw [hcap, ho, Int.zero_add])

theorem BInvK.of_eq {c c' : Conn} {d : Int} (h : BInvK c d) (h1 : c'.chans = c.chans) (h2 : c'.log = c.log) (h3 : c'.openCap = c.openCap) : BInvK c' d :=
  h.emits [] h2 h1 h3 rfl rfl (by simp [balK])

theorem BInvK.cast {c : Conn} {d d' : Int} (h : BInvK c d) (hd : d = d') : BInvK c d' := hd ▸ h

theorem emit_alloc_node {c : Conn} {d : Int} (h : BInvK c d) : BInvK (c.emit (.alloc .node)) (d + 1) := h.emits [.alloc .node] rfl rfl rfl rfl rfl rfl

theorem emit_free_node {c : Conn} {d : Int} (h : BInvK c d) : BInvK (c.emit (.free .node)) (d - 1) := h.emits [.free .node] rfl rfl rfl rfl rfl rfl

theorem frees_bal {α} (l : List α) (c : Conn) (d : Int) (h : BInvK c d) : BInvK (l.foldl (fun c _ => c.emit (.free .node)) c) (d - l.length) := by
  rw [foldl_emit_eq]; exact h.emits _ rfl rfl rfl (balK_frees _ _) (balK_frees _ _) (by rw [balK_frees]; simp; omega)

theorem freeNodes_bal (c : Conn) (k : Nat) (d : Int) (h : BInvK c d) : BInvK (c.freeNodes k) (d - k) := by
  simpa [Conn.freeNodes] using frees_bal (List.range k) c d h

def Neutral (ev : Event) : Prop := (∀ k, ev ≠ .alloc k) ∧ (∀ k, ev ≠ .free k)

theorem balK_neutral (k : Kind) (new : List Event) (h : ∀ ev ∈ new, Neutral ev) : balK k new = 0 := by
  induction new with
  | nil => rfl
  | cons ev rest ih =>
    have hr := ih fun e he => h e (List.mem_cons_of_mem _ he)
    cases ev with
    | alloc k' => exact absurd rfl ((h _ List.mem_cons_self).1 k')
    | free k' => exact absurd rfl ((h _ List.mem_cons_self).2 k')
    | _ => exact hr

theorem adds_neutral {P : Event → Prop} {c c' : Conn} {d : Int} (h : BInvK c d) (ha : Adds P c c') (hp : ∀ ev, P ev → Neutral ev)
    (h1 : c'.chans = c.chans) (h3 : c'.openCap = c.openCap) : BInvK c' d := by
  obtain ⟨new, hlog, hnew⟩ := ha
  have hz := fun k => balK_neutral k new fun ev he => hp ev (hnew ev he)
  exact h.emits new hlog h1 h3 (hz _) (hz _) (by rw [hz]; simp)

theorem emit_neutral (c : Conn) (d : Int) (ev : Event) (hn : Neutral ev) (h : BInvK c d) : BInvK (c.emit ev) d :=
  adds_neutral (P := Neutral) h ⟨[ev], rfl, fun _ he => by rw [List.mem_singleton.mp he]; exact hn⟩ (fun _ h => h) rfl rfl

theorem isOut_neutral (ev : Event) (h : isOut ev) : Neutral ev := by
  cases ev <;> simp_all [isOut, Neutral]

theorem markClose_bal (c : Conn) (r : Nat) (d : Int) (h : BInvK c d) : BInvK (c.markClose r) d := by
  obtain ⟨_, _, he⟩ := markClose_eq c r; rw [he]; exact h.of_eq rfl rfl rfl

theorem setChan_replace_bal {c : Conn} {ch : Nat} {x : Channel} {d : Int} (x' : Channel) (h : BInvK c d) (hx : c.getChan ch = some x) :
    BInvK (c.setChan ch x') (d + nodesOf x - nodesOf x') := by
  obtain ⟨h1, h2⟩ := held_insertSorted ch x' c.chans h.sorted
  rw [show (c.chans.find? (·.1 == ch)).map (·.2) = some x from hx] at h1 h2
  refine ⟨insertSorted_sorted ch x' c.chans h.sorted, ?_, ?_, h.open_⟩
  · show balK .node c.log = held (insertSorted ch x' c.chans) + _
    rw [h1, h.node]; simp; omega
  · show balK .chan c.log = ((insertSorted ch x' c.chans).length : Int)
    rw [h2, h.chan]; simp

theorem setChan_same_bal {c : Conn} {ch : Nat} {x : Channel} {d : Int} (x' : Channel) (h : BInvK c d) (hx : c.getChan ch = some x) (hn : nodesOf x' = nodesOf x) :
    BInvK (c.setChan ch x') d := (setChan_replace_bal x' h hx).cast (by omega)

abbrev BKeep (c c' : Conn) : Prop := ∀ d, BInvK c d → BInvK c' d

theorem bkeep_cclosed : CClosed BKeep where
  refl _ _ h := h
  trans h1 h2 d h := h2 d (h1 d h)
  markClose c r d h := markClose_bal c r d h
  markClosed c ch x r hx d h := setChan_same_bal _ h hx (by unfold Channel.markClosed nodesOf; split <;> rfl)
  owe _ _ h := h.of_eq rfl rfl rfl

/-- a channel that holds nothing is entered under a free index, and the log says so -/
theorem BInvK.insert {c : Conn} {d : Int} (h : BInvK c d) {ch : Nat} (hn : c.getChan ch = none) (new : List Event) (cap : Nat) (x : Channel)
    (hx : nodesOf x = 0) (h1 : balK .node new = 0) (h2 : balK .chan new = 1)
    (h3 : balK .open_ new + (if c.openCap > 0 then 1 else 0) = if cap > 0 then 1 else 0) :
    BInvK (({ c with log := new ++ c.log, openCap := cap } : Conn).setChan ch x) d := by
  obtain ⟨i1, i2⟩ := held_insertSorted ch x c.chans h.sorted
  rw [show (c.chans.find? (·.1 == ch)).map (·.2) = none from hn] at i1 i2
  refine h.step new rfl (insertSorted_sorted ch x c.chans h.sorted) ?_ ?_ h3
  · show _ = held (insertSorted ch x c.chans) + d; rw [i1, h1, hx]; simp
  · show _ = ((insertSorted ch x c.chans).length : Int); rw [i2, h2]; simp [Int.add_comm]

theorem createChan_bal (c : Conn) (ch : Nat) (d : Int) (h : BInvK c d) (hn : c.getChan ch = none) : BInvK (c.createChan ch) d := by
  unfold Conn.createChan Conn.emit
  dsimp only
  by_cases hlt : c.chans.length < c.openCap
  · rw [if_pos hlt]
    exact h.insert hn [.alloc .chan] c.openCap _ rfl rfl rfl (by simp [balK])
  · rw [if_neg hlt]
    by_cases hz : (c.openCap == 0) = true
    · rw [if_pos hz]
      have : c.openCap = 0 := beq_iff_eq.mp hz
      exact h.insert hn [.alloc .open_, .alloc .chan] 32 _ rfl rfl rfl (by simp [balK, this])
    · rw [if_neg hz]
      have : 0 < c.openCap := Nat.pos_of_ne_zero (mt beq_iff_eq.mpr hz)
      have : 0 < c.openCap * 2 := Nat.mul_pos this (by decide)
      exact h.insert hn [.realloc .open_, .alloc .chan] (c.openCap * 2) _ rfl rfl rfl (by simp [balK, *])

variable {B : Bunch → Prop}

theorem Taken.bal {b : Bunch} {δ d : Int} {c c0 : Conn} (h : Taken B b δ c c0) (hb : BInvK c d) : BInvK c0 (d + δ) := by
  cases h with
  | wire => simpa using hb
  | queue _ _ _ hx hq => exact (setChan_replace_bal _ hb hx).cast (by simp [nodesOf, hq]; omega)

theorem delivered_bal (c : Conn) (ch : Nat) (x : Channel) (d : Int) (hb : BInvK c d) (hx : c.getChan ch = some x) :
    BInvK (c.delivered ch x.inPartial) d := by
  obtain ⟨y, hy, hp, heq⟩ := delivered_eq c ch x hx x.inPartial
  rw [heq]
  have h5 := freeNodes_bal _ x.inPartial.length _
    (emit_neutral _ _ (.recv x.inPartial) ⟨nofun, nofun⟩ (bkeep_cclosed.foldl_noteClose x.inPartial _ _ hb))
  have hlen : y.inPartial = x.inPartial := congrArg (·.1) hp
  exact (setChan_replace_bal { y with inPartial := [] } h5 hy).cast (by simp [nodesOf, hlen]; omega)

theorem RStep.bal {δ d : Int} {a b : Conn} (s : RStep B δ a b) (hb : BInvK a d) : BInvK b (d + δ) := by
  have tn : ∀ (x : Channel) (bn : Bunch), nodesOf (x.took bn) = nodesOf x := fun x bn => by simp [nodesOf]
  cases s with
  | alloc => exact emit_alloc_node hb
  | drop => exact emit_free_node hb
  | fail => simpa using markClose_bal _ _ _ hb
  | create _ h => simpa using createChan_bal _ _ _ hb h
  | enqueue _ _ _ _ hx _ _ _ hq =>
    exact (setChan_replace_bal _ hb hx).cast (by simp [nodesOf, enqueue_length _ _ _ hq]; omega)
  | single _ _ ht hx =>
    exact (emit_free_node (emit_neutral _ _ (.recv _) ⟨nofun, nofun⟩
      (bkeep_cclosed.noteClose _ _ _ (setChan_same_bal _ (ht.bal hb) hx (tn _ _))))).cast (by omega)
  | start _ _ ht hx =>
    exact (setChan_replace_bal _ (freeNodes_bal _ _ _ (ht.bal hb)) (freeNodes_getChan_some hx)).cast (by simp [nodesOf]; omega)
  | append _ _ _ ht hx =>
    exact (setChan_replace_bal _ (ht.bal hb) hx).cast (by simp [nodesOf]; omega)
  | refuse _ _ ht hx =>
    exact (emit_free_node (setChan_same_bal _ (ht.bal hb) hx (tn _ _))).cast (by omega)
  | discard _ _ ht hx =>
    exact (emit_free_node (setChan_replace_bal _ (freeNodes_bal _ _ _ (ht.bal hb)) (freeNodes_getChan_some hx))).cast (by simp [nodesOf]; omega)
  | stray _ ht => exact (emit_free_node (ht.bal hb)).cast (by omega)
  | deliver _ _ _ hx => simpa using delivered_bal _ _ _ _ hb hx
  | overflow _ _ hx =>
    exact markClose_bal _ _ _ ((setChan_replace_bal _ (freeNodes_bal _ _ _ hb) (freeNodes_getChan_some hx)).cast (by simp [nodesOf]; omega))

theorem RSteps.bal {δ d : Int} {a b : Conn} (s : RSteps B δ a b) (hb : BInvK a d) : BInvK b (d + δ) :=
  s.induct (J := fun d c => BInvK c d) RStep.bal hb

theorem bunchLoop_bal (fuel : Nat) (c : Conn) (bits : Bits) (skip : Bool) (h : BInvK c 0) : BInvK (Conn.bunchLoop fuel c bits skip).1 0 := by
  simpa using (bunchLoop_steps fuel c bits skip).bal h

theorem bkeep_bclosed (e : Env) : BClosed e BKeep where
  refl _ _ h := h
  trans h1 h2 d h := h2 d (h1 d h)
  startPacket _ _ h := h.of_eq rfl rfl rfl
  flushNow c ha _ h := adds_neutral h ((isOut_sclosed e).flushNow c ha) isOut_neutral rfl rfl
  append _ _ _ h := h.of_eq rfl rfl rfl

theorem writeBits_bal (e : Env) (c : Conn) (bits : Bits) (d : Int) (h : BInvK c d) : BInvK (c.writeBits e bits).1 d := (bkeep_bclosed e).writeBits c bits d h

theorem resendNodes_bal (e : Env) (ch : Nat) (nodes : List OutNode) : ∀ (c : Conn) (d : Int), BInvK c d → (c.getChan ch).isSome →
    BInvK (c.resendNodes e ch nodes) (d - nodes.length) ∧ ((c.resendNodes e ch nodes).getChan ch).isSome := by
  induction nodes with
  | nil => intro c d h hs; unfold Conn.resendNodes; exact ⟨by simpa using h, hs⟩
  | cons n rest ih =>
    intro c d h hs
    unfold Conn.resendNodes
    dsimp only
    have h1 := writeBits_bal e c n.bits d h
    have hg := writeBits_getChan e c n.bits ch
    cases hx : c.getChan ch with
    | none => rw [hx] at hs; simp at hs
    | some x =>
      rw [hx] at hg
      simp only [hg]
      have h2 := setChan_replace_bal { x with outRec := x.outRec ++ [{ n with packetId := (c.writeBits e n.bits).2 }] } h1 hg
      obtain ⟨i1, i2⟩ := ih _ _ h2 (by rw [getChan_setChan_self]; rfl)
      refine ⟨i1.cast ?_, i2⟩
      simp [nodesOf]; omega

theorem onAckChans_bal (pid : Int) (chs : List Nat) (c : Conn) : BKeep c (c.onAckChans pid chs) := by
  refine onAckChans_steps (fun _ _ h => h) (fun h1 h2 d h => h2 d (h1 d h)) pid (fun c ch x hx d h => ?_) chs c
  have hl := removeOutgoing_lengths pid x.outRec
  exact (frees_bal (removeOutgoing pid x.outRec).1 _ _ (setChan_replace_bal { x with outRec := (removeOutgoing pid x.outRec).2 } h hx)).cast
    (by simp [nodesOf]; omega)

theorem onNakChans_bal (e : Env) (pid : Int) (chs : List Nat) (c : Conn) : BKeep c (c.onNakChans e pid chs) := by
  refine onNakChans_steps (fun _ _ h => h) (fun h1 h2 d h => h2 d (h1 d h)) pid (fun c ch x hx d h => ?_) chs c
  have hl := removeOutgoing_lengths pid x.outRec
  exact (resendNodes_bal e ch (removeOutgoing pid x.outRec).1 _ _
    (setChan_replace_bal { x with outRec := (removeOutgoing pid x.outRec).2 } h hx) (by rw [getChan_setChan_self]; rfl)).1.cast (by simp [nodesOf]; omega)

/-- what a NAK takes out of a list it puts back, what an ACK takes out it releases -/
theorem bkeep_nclosed (e : Env) : NClosed e BKeep where
  refl _ _ h := h
  trans h1 h2 d h := h2 d (h1 d h)
  onAck c pid chs := onAckChans_bal pid chs c
  onNak c pid chs := onNakChans_bal e pid chs c
  notified _ _ h := h.of_eq rfl rfl rfl
  acked _ _ h := h.of_eq rfl rfl rfl
  status _ _ _ _ h := emit_neutral _ _ _ ⟨nofun, nofun⟩ h
  notify _ _ _ _ _ _ h := h.of_eq rfl rfl rfl

theorem receivedPacket_bal (e : Env) (c : Conn) (bits : Bits) (h : BInvK c 0) : BInvK (c.receivedPacket e bits).1 0 :=
  receivedPacket_closed (R := fun c c' => BInvK c 0 → BInvK c' 0) (fun _ h => h) (fun h1 h2 h => h2 (h1 h)) (fun c r => markClose_bal c r 0)
    (fun c hd => (bkeep_nclosed e).notifyUpdate c hd 0) bunchLoop_bal (fun _ _ h => h.of_eq rfl rfl rfl) (fun _ _ _ h => h.of_eq rfl rfl rfl) c bits h

theorem sendBunch_bal (e : Env) (c : Conn) (b : Bunch) (h : BInvK c 0) : BInvK (c.sendBunch e b).1 0 :=
  sendBunch_closed (bkeep_bclosed e) bkeep_cclosed (fun c ch hn d h => createChan_bal c ch d h hn)
    (fun c ch x _ hx d h => setChan_same_bal _ h hx rfl)
    -- the node obtained for the record is the node the channel's list then holds
    (fun c ch x n hx d h => (setChan_replace_bal _ (emit_alloc_node h) hx).cast (by simp [nodesOf]; omega)) c b 0 h

theorem freeChan_balK (c : Conn) (x : Channel) (k : Kind) :
    balK k (c.freeChan x).log = balK k c.log - (if k = .node then nodesOf x else if k = .chan then 1 else 0) := by
  rw [freeChan_eq]
  show balK k (.free .chan :: (List.replicate _ _ ++ c.log)) = _
  simp only [balK, balK_append, balK_frees]
  cases k <;> simp [nodesOf] <;> omega

theorem held_filter (l : List (Nat × Channel)) (p : Nat × Channel) (hs : KeysSorted l) (hp : p ∈ l) :
    held (l.filter (·.1 != p.1)) = held l - nodesOf p.2 ∧ ((l.filter (·.1 != p.1)).length : Int) = l.length - 1 := by
  induction l with
  | nil => simp at hp
  | cons q rest ih =>
    unfold KeysSorted at hs
    rw [List.pairwise_cons] at hs
    rcases List.mem_cons.mp hp with rfl | hp
    · -- the head is removed, everything behind it has a larger key and stays
      have hrest : rest.filter (·.1 != p.1) = rest := by
        rw [List.filter_eq_self]
        intro r hr
        exact bne_iff_ne.mpr (Nat.ne_of_gt (hs.1 r hr))
      simp only [List.filter_cons, bne_self_eq_false, Bool.false_eq_true, if_false, hrest, held_cons, List.length_cons]
      exact ⟨by omega, by omega⟩
    · have hne : (q.1 != p.1) = true := bne_iff_ne.mpr (Nat.ne_of_lt (hs.1 p hp))
      obtain ⟨i1, i2⟩ := ih hs.2 hp
      simp only [List.filter_cons, hne, if_true, held_cons, List.length_cons, i1]
      exact ⟨by omega, by omega⟩

theorem update_bal (e : Env) (c : Conn) (h : BInvK c 0) : BInvK (c.checkTimeout e).updateTail.1 0 := by
  refine update_sorted_closed (R := fun c c' => BInvK c 0 → BInvK c' 0) (fun _ h => h) (fun h1 h2 h => h2 (h1 h)) (fun c r => markClose_bal c r 0)
    (fun _ _ h => h.of_eq rfl rfl rfl) ?_ (fun _ _ => emit_neutral _ _ _ ⟨nofun, nofun⟩) e c h.sorted h
  intro c p hs hp _ _ h
  obtain ⟨f1, f2⟩ := held_filter c.chans p hs hp
  rw [freeChan_eq]
  refine h.step (.free .chan :: List.replicate _ (.free .node)) rfl (List.Pairwise.filter _ hs) ?_ ?_ (by simp [balK, balK_frees])
  · show _ = held (c.chans.filter (·.1 != p.1)) + 0
    simp [balK, balK_frees, f1, nodesOf]; omega
  · show _ = ((c.chans.filter (·.1 != p.1)).length : Int)
    simp [balK, balK_frees, f2]; omega

theorem foldl_freeChan (k : Kind) (l : List (Nat × Channel)) : ∀ c' : Conn,
    balK k (l.foldl (fun c p => c.freeChan p.2) c').log = balK k c'.log - (if k = .node then held l else if k = .chan then l.length else 0) ∧
    (l.foldl (fun c p => c.freeChan p.2) c').openCap = c'.openCap := by
  induction l with
  | nil => intro c'; simp [held]
  | cons p rest ih =>
    intro c'
    obtain ⟨i1, i2⟩ := ih (c'.freeChan p.2)
    simp only [List.foldl_cons, held_cons, List.length_cons, i1, i2, freeChan_balK]
    refine ⟨?_, by rw [freeChan_eq]⟩
    cases k <;> simp <;> omega

theorem uninitChans_balanced (c : Conn) (h : BInvK c 0) :
    balK .node c.uninitChans.log = 0 ∧ balK .chan c.uninitChans.log = 0 ∧ balK .open_ c.uninitChans.log = 0 := by
  unfold Conn.uninitChans
  dsimp only
  have f := fun k => foldl_freeChan k c.chans c
  have hn := h.node
  have hc := h.chan
  have ho := h.open_
  rw [(f .node).2]
  split
  · rename_i hpos
    refine ⟨?_, ?_, ?_⟩ <;> simp only [Conn.emit, balK, (f _).1, hn, hc, ho, hpos] <;> simp
  · rename_i hnpos
    refine ⟨?_, ?_, ?_⟩ <;> simp only [(f _).1, hn, hc, ho, hnpos] <;> simp

theorem fresh_bal (c : Conn) (hc : c.chans = []) (hl : c.log = []) (ho : c.openCap = 0) : BInvK c 0 :=
  ⟨by rw [hc]; exact List.Pairwise.nil, by rw [hc, hl]; rfl, by rw [hc, hl]; rfl, by rw [hl, ho]; rfl⟩

end Utcp
