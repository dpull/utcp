import Utcp.Lemmas.RecvKeeps
import Utcp.Lemmas.Log
/-!
# Invariants of the send side: what they have to show

The send side of a connection is the send buffer with the acknowledgement state the packet header is built from, and the
retransmission records of the channels.  An invariant `I` of it, with a predicate `P` on what is logged, is settled by a handful of
facts (`SendSide`): `utcp_send_flush` keeps it; `WriteBitsToSendBuffer` keeps it for bits satisfying `W`; the bits of every record
satisfy `G` (which implies `W`), and `I` looks at the records through their bits only, so that a NAK, which writes the bits of a
record again and re-queues it under a new packet id, keeps `I`; `I` does not look beyond the send side (`frame`); and it survives the
two writes `ReceivedPacket` makes to the acknowledgement state.  Retransmission, release, the notification handler,
`ReceivedPacket`, `utcp_update` and an accepted send (whose bits must satisfy `W`, and `G` if a record is kept) follow for all
such invariants at once: the send-buffer invariant `SInv` (C18), the emission invariant `EInv` (C04) and "only reliable bunches
are kept" (C04).
-/
namespace Utcp
open Gen

def ChanOKP (N : OutNode → Prop) (x : Channel) : Prop := ∀ n ∈ x.outRec, N n
def AllOKP (N : OutNode → Prop) (c : Conn) : Prop := ∀ p ∈ c.chans, ChanOKP N p.2

def BitsN (G : Bits → Prop) : OutNode → Prop := fun n => G n.bits

theorem setChan_allOKP {N : OutNode → Prop} (c : Conn) (ch : Nat) (x : Channel) (h : AllOKP N c) (hx : ChanOKP N x) : AllOKP N (c.setChan ch x) := by
  intro p hp
  rcases mem_insertSorted ch x c.chans p hp with h1 | h1
  · rw [h1]; exact hx
  · exact h p h1

theorem getChan_okP {N : OutNode → Prop} (c : Conn) (ch : Nat) (x : Channel) (h : AllOKP N c) (hg : c.getChan ch = some x) : ChanOKP N x :=
  h (ch, x) (mem_of_getChan hg)

theorem AllOKP.of_chans {N : OutNode → Prop} {c c' : Conn} (h : AllOKP N c) (hc : c'.chans = c.chans) : AllOKP N c' := by
  unfold AllOKP; rw [hc]; exact h

/-- the receive path never touches a record, and a channel it creates holds none -/
theorem allOKP_rclosed (N : OutNode → Prop) : RClosed (fun c c' => AllOKP N c → AllOKP N c') where
  refl _ h := h
  trans h1 h2 h := h2 (h1 h)
  mem _ _ _ h := h.of_chans rfl
  recv _ _ h := h.of_chans rfl
  setChan c ch x x' hx ho _ _ _ h := setChan_allOKP c ch x' h (by intro n hn; rw [ho] at hn; exact getChan_okP c ch x h hx n hn)
  markClosed c ch x r hx h := setChan_allOKP c ch _ h (by intro n hn; rw [markClosed_outRec] at hn; exact getChan_okP c ch x h hx n hn)
  create c ch _ h := by
    obtain ⟨_, _, _, heq⟩ := createChan_eq c ch
    rw [heq]
    exact setChan_allOKP _ ch _ (h.of_chans rfl) (by intro n hn; cases hn)
  markClose c r h := h.of_chans (markClose_chans c r)
  owe _ h := h.of_chans rfl

structure SendSide (e : Env) (W G : Bits → Prop) (I : Conn → Prop) (P : Event → Prop) : Prop where
  flush : ∀ c, Pres I P c (c.flush e)
  writeBits : ∀ c bits, W bits → Pres I P c (c.writeBits e bits).1
  recs : ∀ c, I c → AllOKP (BitsN G) c
  /-- the bits of a record may be written again (a NAK re-sends them) -/
  resend : ∀ bits, G bits → W bits
  /-- `I` does not look beyond the send buffer, the acknowledgement state, the connected flag and the bits of the records -/
  frame : ∀ c c', I c → c'.notify = c.notify → c'.sendActive = c.sendActive → c'.sendNotif = c.sendNotif → c'.sendBody = c.sendBody →
    c'.connected = c.connected → AllOKP (BitsN G) c' → I c'
  /-- of the acknowledgement state `I` reads the words written, the outgoing sequence, that the history is full length and that the
  acknowledged sequence is a 14-bit value: `packet_notify_update` and `packet_notify_ack_seq` write other things -/
  notify : ∀ c n, I c → n.writtenWords = c.notify.writtenWords → n.outSeq = c.notify.outSeq →
    (c.notify.hist.length = histLen → n.hist.length = histLen) →
    (0 ≤ c.notify.inAckSeq ∧ c.notify.inAckSeq < 16384 → 0 ≤ n.inAckSeq ∧ n.inAckSeq < 16384) → I { c with notify := n }
  noOut : ∀ ev, (∀ bytes, ev ≠ .out bytes) → P ev

section
variable {e : Env} {W G : Bits → Prop} {I : Conn → Prop} {P : Event → Prop} (hI : SendSide e W G I P)
include hI

/-- a step that leaves the send side alone but for the records, whose bits still satisfy `G`, and logs no datagram -/
theorem SendSide.of_frame {c c' : Conn} (h1 : c'.notify = c.notify) (h2 : c'.sendActive = c.sendActive) (h3 : c'.sendNotif = c.sendNotif)
    (h4 : c'.sendBody = c.sendBody) (h5 : c'.connected = c.connected) (hr : AllOKP (BitsN G) c → AllOKP (BitsN G) c')
    (hl : Adds (fun ev => ∀ bytes, ev ≠ .out bytes) c c') : Pres I P c c' :=
  fun h => ⟨hI.frame c c' h h1 h2 h3 h4 h5 (hr (hI.recs c h)), hl.mono hI.noOut⟩

theorem SendSide.setOut (c : Conn) (ch : Nat) (x : Channel) (r : List OutNode) (hr : ∀ n ∈ r, G n.bits) :
    Pres I P c (c.setChan ch { x with outRec := r }) :=
  hI.of_frame rfl rfl rfl rfl rfl (fun h => setChan_allOKP c ch _ h hr) (Adds.of_log_eq rfl)

theorem SendSide.emit (c : Conn) (ev : Event) (hev : ∀ bytes, ev ≠ .out bytes) : Pres I P c (c.emit ev) :=
  hI.of_frame rfl rfl rfl rfl rfl (fun h => h.of_chans rfl) (Adds.emit c ev hev)

theorem SendSide.pushRec (c : Conn) (ch : Nat) (x : Channel) (n : OutNode) (hx : c.getChan ch = some x) (hn : G n.bits) :
    Pres I P c (c.setChan ch { x with outRec := x.outRec ++ [n] }) := fun h =>
  hI.setOut c ch x _ (fun m hm => by
    rcases List.mem_append.mp hm with hm | hm
    · exact getChan_okP c ch x (hI.recs c h) hx m hm
    · rw [List.mem_singleton.mp hm]; exact hn) h

theorem SendSide.resendNodes (ch : Nat) (nodes : List OutNode) : ∀ c : Conn, (∀ n ∈ nodes, G n.bits) → Pres I P c (c.resendNodes e ch nodes) := by
  induction nodes with
  | nil => intro c _; exact Pres.refl c
  | cons n rest ih =>
    intro c hn
    unfold Conn.resendNodes
    dsimp only
    refine (hI.writeBits c n.bits (hI.resend _ (hn n List.mem_cons_self))).trans (Pres.trans ?_ (ih _ (fun m hm => hn m (List.mem_cons_of_mem _ hm))))
    split
    · exact Pres.refl _
    · rename_i x hx; exact hI.pushRec _ ch x _ hx (hn n List.mem_cons_self)

theorem SendSide.onNakChans (pid : Int) (chs : List Nat) (c : Conn) : Pres I P c (c.onNakChans e pid chs) := by
  refine onNakChans_steps Pres.refl Pres.trans pid (fun c ch x hx h => ?_) chs c
  have hxo := getChan_okP c ch x (hI.recs c h) hx
  exact ((hI.setOut c ch x _ (fun n hn => hxo n ((removeOutgoing_mem_iff pid x.outRec n).mpr (Or.inr hn)))).trans
    (hI.resendNodes ch _ _ (fun n hn => hxo n ((removeOutgoing_mem_iff pid x.outRec n).mpr (Or.inl hn))))) h

theorem SendSide.onAckChans (pid : Int) (chs : List Nat) (c : Conn) : Pres I P c (c.onAckChans pid chs) := by
  refine onAckChans_steps Pres.refl Pres.trans pid (fun c ch x hx h => ?_) chs c
  have hxo := getChan_okP c ch x (hI.recs c h) hx
  refine ((hI.setOut c ch x _ (fun n hn => hxo n ((removeOutgoing_mem_iff pid x.outRec n).mpr (Or.inr hn)))).trans ?_) h
  rw [foldl_emit_eq]
  exact hI.of_frame rfl rfl rfl rfl rfl (fun h => h.of_chans rfl)
    ⟨_, rfl, fun ev hev => by rw [List.eq_of_mem_replicate hev]; intro _ hb; cases hb⟩

theorem SendSide.nclosed : NClosed e (Pres I P) where
  refl := Pres.refl
  trans := Pres.trans
  onAck c pid chs := hI.onAckChans pid chs c
  onNak c pid chs := hI.onNakChans pid chs c
  notified _ := hI.of_frame rfl rfl rfl rfl rfl (fun h => h.of_chans rfl) (Adds.of_log_eq rfl)
  acked _ := hI.of_frame rfl rfl rfl rfl rfl (fun h => h.of_chans rfl) (Adds.of_log_eq rfl)
  status c p v := hI.emit c _ (by intro _ hb; cases hb)
  notify c r i o s h := ⟨hI.notify c _ h rfl rfl id id, Adds.of_log_eq rfl⟩

theorem SendSide.rclosed : RClosed (Pres I P) where
  refl := Pres.refl
  trans := Pres.trans
  mem c ev hm := hI.emit c ev (by intro _ hb; subst hb; cases hm)
  recv c g := hI.emit c _ (by intro _ hb; cases hb)
  setChan c ch x x' hx h1 h2 h3 h4 :=
    hI.of_frame rfl rfl rfl rfl rfl ((allOKP_rclosed _).setChan c ch x x' hx h1 h2 h3 h4) (Adds.of_log_eq rfl)
  markClosed c ch x r hx := hI.of_frame rfl rfl rfl rfl rfl ((allOKP_rclosed _).markClosed c ch x r hx) (Adds.of_log_eq rfl)
  create c ch hn := by
    have hs := sameN_rclosed.create c ch hn
    have ha := (adds_rclosed (P := fun ev => ∀ bytes, ev ≠ .out bytes) (fun ev hm _ hb => by subst hb; cases hm) (fun _ _ hb => by cases hb)).create c ch hn
    exact hI.of_frame hs.notify hs.sendActive hs.sendNotif hs.sendBody hs.connected ((allOKP_rclosed _).create c ch hn) ha
  markClose c r := by
    have hs := markClose_sameN c r
    exact hI.of_frame hs.notify hs.sendActive hs.sendNotif hs.sendBody hs.connected ((allOKP_rclosed _).markClose c r) (markClose_adds _ c r)
  owe _ := hI.of_frame rfl rfl rfl rfl rfl (fun h => h.of_chans rfl) (Adds.of_log_eq rfl)

/-- what `ReceivedPacket` emits on the way (retransmissions triggered by NAKs, packets flushed to make room for them) satisfies `P` -/
theorem SendSide.receivedPacket (c : Conn) (bits : Bits) : Pres I P c (c.receivedPacket e bits).1 :=
  receivedPacket_closed Pres.refl Pres.trans hI.rclosed.markClose hI.nclosed.notifyUpdate hI.rclosed.bunchLoop
    (fun _ _ => hI.of_frame rfl rfl rfl rfl rfl (fun h => h.of_chans rfl) (Adds.of_log_eq rfl))
    (fun c p a h => by obtain ⟨i, hs, heq, hi, hl⟩ := ackSeq_frame c.notify p a; rw [heq]; exact ⟨hI.notify c _ h rfl rfl hl hi, Adds.of_log_eq rfl⟩) c bits

theorem SendSide.update (c : Conn) : Pres I P c (c.checkTimeout e).updateTail.1 :=
  update_closed hI.rclosed (fun _ _ => hI.of_frame rfl rfl rfl rfl rfl (fun h => h.of_chans rfl) (Adds.of_log_eq rfl))
    (fun _ _ => hI.of_frame rfl rfl rfl rfl rfl (fun h q hq => h q (List.mem_filter.mp hq).1) (Adds.of_log_eq rfl))
    (fun c r => hI.emit c _ (by intro _ hb; cases hb)) c

/-- **`utcp_send_bunch`**: a refused send changes nothing; an accepted one writes the header with the sequence number it has taken and
the payload, which must satisfy `W`, and keeps a record of them if the bunch is reliable, for which they must satisfy `G` -/
theorem SendSide.sendBunch (c : Conn) (b : Bunch)
    (hnew : ∀ h0 x, c.sendCheck b = .inr h0 → ((c.getOrCreateChan b false).1.noteClose b).getChan b.chIndex = some x →
      (b.bReliable = true → G ((encodeBunchHeader { b with chSeq := x.outReliable + 1 }).getD h0 ++ b.data)) ∧
      (b.bReliable = false → W (h0 ++ b.data))) :
    Pres I P c (c.sendBunch e b).1 := by
  cases hchk : c.sendCheck b with
  | inl err => rw [sendBunch_refused e hchk]; exact Pres.refl c
  | inr h0 =>
    rw [sendBunch_accepted e hchk]
    exact ((hI.rclosed.getOrCreateChan c b false).trans (hI.rclosed.toCClosed.noteClose _ b)).trans
      (sendCommit_bits_closed Pres.refl Pres.trans hI.writeBits hI.resend
        (fun c ch x s hx => hI.of_frame rfl rfl rfl rfl rfl (fun hr => setChan_allOKP c _ _ hr (getChan_okP c _ x hr hx)) (Adds.of_log_eq rfl))
        (fun c ch x n hx hn => (hI.emit c _ (by intro _ hb; cases hb)).trans (hI.pushRec _ ch x n hx hn)) c b h0 (fun x hx => hnew h0 x hchk hx))

end

end Utcp
