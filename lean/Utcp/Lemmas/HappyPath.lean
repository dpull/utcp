import Utcp.Props.C18_Parse
/-! The sender's and the receiver's half of one clean exchange (`Props/C01_Happy.lean` joins them). -/
namespace Utcp.Props.C01Happy
open Utcp Utcp.Gen Utcp.Props Utcp.Props.C18Parse

theorem next_single (c : Conn) (b : Bunch) (x : Channel) (hx : c.getChan b.chIndex = some x) (hrel : b.bReliable = true)
    (hnp : b.bPartial = false) (hcl : b.bClose = false) (hq : x.inRec = []) (hseq : b.chSeq = x.inReliable + 1) :
    ((c.processBunch x b).1.dispatchAll b.chIndex, (c.processBunch x b).2) =
      (((c.setChan b.chIndex { x with inReliable := b.chSeq }).emit (.recv [b])).emit (.free .node), false) := by
  rw [processBunch_next c x b (fun _ => hseq), receivedNextBunch_single c b x hx hnp, if_pos hrel, noteClose_of_not_close _ b hcl]
  refine congrArg (·, false) (dispatchAll_nil _ b.chIndex { x with inReliable := b.chSeq } ?_ hq)
  exact getChan_setChan_self _ _ _

/-- receiver side: a reliable, non-partial bunch that is the next one of an existing channel with nothing queued is handed to the
application at once, numbered as expected, and the channel's counter advances -/
theorem next_bunch_delivered (c : Conn) (w : Bunch) (x : Channel) (hx : c.getChan w.chIndex = some x) (hrel : w.bReliable = true)
    (hnp : w.bPartial = false) (hcl : w.bClose = false) (hq : x.inRec = []) (hwire : w.chSeq = (x.inReliable + 1) % 1024) :
    handleBunch c w =
      (((((c.emit (.alloc .node)).setChan w.chIndex { x with inReliable := x.inReliable + 1 }).emit
          (.recv [{ w with packetId := c.inPacketId, chSeq := x.inReliable + 1 }])).emit (.free .node)), false) := by
  have habs : absSeq (c.emit (.alloc .node)) x { w with packetId := c.inPacketId } = { w with packetId := c.inPacketId, chSeq := x.inReliable + 1 } := by
    unfold absSeq
    rw [if_pos hrel]
    show ({ w with packetId := c.inPacketId, chSeq := MakeRelative_chseq w.chSeq x.inReliable } : Bunch) = _
    rw [hwire, C13.makeRelative_recovers (x.inReliable + 1) x.inReliable (by omega)]
  unfold handleBunch
  dsimp only
  rw [show (c.emit (.alloc .node)).inPacketId = c.inPacketId from rfl, getOrCreateChan_existing (c.emit (.alloc .node)) { w with packetId := c.inPacketId } true x hx]
  dsimp only
  rw [habs]
  exact next_single (c.emit (.alloc .node)) { w with packetId := c.inPacketId, chSeq := x.inReliable + 1 } x hx hrel hnp hcl hq rfl

/-- receiver side of the exchange: an accepted packet whose body is the encoding of one reliable, non-partial, non-closing bunch `b0` that is the next
one of an existing channel with nothing queued hands it to the application in this call, numbered with the channel's next number -/
theorem one_bunch_received (e : Env) (R : Conn) (bits : Bits) (h : NotifHeader) (b0 : Bunch) (xr : Channel)
    (hd : decodePacketHeader bits = .ok (h, bodyOf [b0])) (hpos : R.notify.deltaSeq h > 0) (hwf : WFBunch b0) (hch : b0.chIndex < maxChannels)
    (hxr : R.getChan b0.chIndex = some xr) (hq : xr.inRec = []) (hrel : b0.bReliable = true) (hnp : b0.bPartial = false) (hcl : b0.bClose = false)
    (hseq : b0.chSeq % 1024 = (xr.inReliable + 1) % 1024) :
    ∃ b', Event.recv [b'] ∈ (R.receivedPacket e bits).1.log ∧ (R.receivedPacket e bits).2 = true ∧
      seen b' = seen (wireView b0) ∧ b'.chSeq = xr.inReliable + 1 ∧
      ∃ xr', (R.receivedPacket e bits).1.getChan b0.chIndex = some xr' ∧ xr'.inReliable = xr.inReliable + 1 := by
  rw [C18Parse.receivedPacket_genuine e R bits h [b0] hd hpos (by intro q hq'; rw [List.mem_singleton.mp hq']; exact ⟨hwf, hch⟩)]
  -- the acknowledgement processing leaves the receive side of the channel alone
  have hrs := (notifyUpdate_rsame e ({ R with inPacketId := R.inPacketId + R.notify.deltaSeq h } : Conn) h).chan b0.chIndex
  generalize ({ R with inPacketId := R.inPacketId + R.notify.deltaSeq h } : Conn).notifyUpdate e h = c2 at hrs ⊢
  rw [show ({ R with inPacketId := R.inPacketId + R.notify.deltaSeq h } : Conn).getChan b0.chIndex = some xr from hxr] at hrs
  cases hg2 : c2.getChan b0.chIndex with
  | none => rw [hg2] at hrs; cases hrs
  | some x2 =>
    rw [hg2] at hrs
    obtain ⟨_, hq2, hi2⟩ : x2.inPartial = xr.inPartial ∧ x2.inRec = xr.inRec ∧ x2.inReliable = xr.inReliable := by
      simpa [recvPart] using hrs
    have hnb := next_bunch_delivered c2 (wireView b0) x2 hg2 hrel hnp hcl (hq2.trans hq) (by rw [hi2]; exact hseq)
    simp only [List.map_cons, List.map_nil, handleAll, hnb, Bool.false_or]
    rw [hi2]
    exact ⟨_, List.mem_cons_of_mem _ List.mem_cons_self, trivial, rfl, rfl, _, getChan_setChan_self _ _ _, rfl⟩

/-- sender side: a reliable bunch accepted on an existing channel while the send buffer is empty starts a packet, is numbered, written
and recorded; the next flush emits exactly: outgoing header, the packet header of the moment, the bunch's encoding, the terminators -/
theorem send_then_flush (e e' : Env) (c : Conn) (b : Bunch) (h0 : Bits) (x : Channel)
    (hchk : c.sendCheck b = .inr h0) (hx : c.getChan b.chIndex = some x) (hrel : b.bReliable = true) (hcl : b.bClose = false)
    (hidle : c.sendActive = false) (hconn : c.connected = true) (hm : e.magicBits ≤ 32) (hh : c.notify.hist.length = 256) :
    ∃ hdr, encodeBunchHeader { b with chSeq := x.outReliable + 1 } = some hdr ∧
      ((c.sendBunch e b).1.flush e').log =
        .out (bitsToBytes (outgoingHeader e' c.lastSessionId c.lastClientId false ++ encodeNotifHeader (c.notify.headerWith c.notify.curWords)
              ++ (hdr ++ b.data) ++ [true, true])) :: .alloc .node :: c.log := by
  obtain ⟨_, _, henc, hfit⟩ := sendCheck_cases hchk
  obtain ⟨⟨hdr, hhe⟩, _⟩ := header_some_of_zero b (x.outReliable + 1) h0 henc
  have hlen : hdr.length = h0.length := encodeBunchHeader_length_seq b (x.outReliable + 1) h0 hdr henc hhe
  refine ⟨hdr, hhe, ?_⟩
  -- the channel exists and is not closed by this bunch
  have hc1 : (c.getOrCreateChan b false).1.noteClose b = c := by
    rw [getOrCreateChan_existing c b false x hx, noteClose_of_not_close c b hcl]
  rw [sendBunch_accepted e hchk, sendCommit_reliable e c b h0 x hrel (by rw [hc1]; exact hx), hc1, hhe, Option.getD_some,
    writeBits_idle e (c.setChan b.chIndex { x with outReliable := x.outReliable + 1 }) (hdr ++ b.data) hidle hm hh (by rw [List.length_append, hlen]; exact hfit)]
  rw [addOutRec_existing _ _ (show (({ (c.setChan b.chIndex { x with outReliable := x.outReliable + 1 }).startPacket with sendBody := hdr ++ b.data } : Conn).emit
    (.alloc .node)).getChan b.chIndex = some { x with outReliable := x.outReliable + 1 } from getChan_setChan_self c b.chIndex _)]
  -- the buffer is active: the flush emits it, under the header the packet was started with
  rw [flush_of_active e' _ ?_ ?_, flushNow_log, ← finalHeader_startPacket c]
  · rfl
  · rfl
  · exact hconn

end Utcp.Props.C01Happy
