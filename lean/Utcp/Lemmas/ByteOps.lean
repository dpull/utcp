import Utcp.Lemmas.ByteMem
import Utcp.BitIO
/-! Buffers as bit sequences: what has been written (`content`), what is left to read (`rest`). -/
namespace Utcp.BB

def bitsFrom (m : Mem) : Nat → Nat → Bits
  | _, 0 => []
  | lo, n+1 => bit m lo :: bitsFrom m (lo + 1) n

@[simp] theorem bitsFrom_length (m : Mem) (lo n : Nat) : (bitsFrom m lo n).length = n := by
  induction n generalizing lo with
  | zero => rfl
  | succ n ih => simp [bitsFrom, ih]

theorem bitsFrom_append (m : Mem) (lo a b : Nat) : bitsFrom m lo (a + b) = bitsFrom m lo a ++ bitsFrom m (lo + a) b := by
  induction a generalizing lo with
  | zero => simp [bitsFrom]
  | succ a ih =>
    rw [Nat.add_right_comm a 1 b]
    simp only [bitsFrom, List.cons_append]
    rw [ih (lo + 1), Nat.add_assoc lo 1 a, Nat.add_comm 1 a]

theorem bitsFrom_split (m : Mem) (lo hi k : Nat) (h : lo + k ≤ hi) :
    bitsFrom m lo (hi - lo) = bitsFrom m lo k ++ bitsFrom m (lo + k) (hi - (lo + k)) := by
  rw [← bitsFrom_append, Nat.sub_add_eq, Nat.add_sub_cancel' (Nat.le_sub_of_add_le' h)]

theorem bitsFrom_getD (m : Mem) (lo n i : Nat) (hi : i < n) : (bitsFrom m lo n).getD i false = bit m (lo + i) := by
  induction n generalizing lo i with
  | zero => exact absurd hi (Nat.not_lt_zero i)
  | succ n ih =>
    cases i with
    | zero => simp [bitsFrom]
    | succ i =>
      simp only [bitsFrom, List.getD_cons_succ]
      rw [ih (lo + 1) i (Nat.lt_of_succ_lt_succ hi), Nat.add_assoc lo 1 i, Nat.add_comm 1 i]

theorem bitsFrom_eq (m : Mem) (w : Bits) : ∀ lo, (∀ i, i < w.length → bit m (lo + i) = w.getD i false) → bitsFrom m lo w.length = w := by
  induction w with
  | nil => intro lo _; rfl
  | cons x w ih =>
    intro lo h
    simp only [List.length_cons, bitsFrom]
    have h0 := h 0 (by simp)
    simp at h0
    rw [h0, ih (lo + 1) (fun i hi => by
      have := h (i + 1) (Nat.succ_lt_succ hi)
      rw [Nat.add_assoc lo 1 i, Nat.add_comm 1 i, this]; simp)]

theorem bitsFrom_shift (m m' : Mem) (lo lo' n : Nat) (h : ∀ i, i < n → bit m (lo + i) = bit m' (lo' + i)) :
    bitsFrom m lo n = bitsFrom m' lo' n := by
  have := bitsFrom_eq m (bitsFrom m' lo' n) lo
  rw [bitsFrom_length] at this
  exact this fun i hi => by rw [bitsFrom_getD _ _ _ _ hi, h i hi]

theorem bitsFrom_congr (m m' : Mem) (lo n : Nat) (h : ∀ k, lo ≤ k → k < lo + n → bit m k = bit m' k) :
    bitsFrom m lo n = bitsFrom m' lo n :=
  bitsFrom_shift m m' lo lo n fun _ hi => h _ (Nat.le_add_right _ _) (Nat.add_lt_add_left hi _)

/-- a write buffer: bytes, capacity = the array, cursor inside, nothing but zeros from the cursor on ("a zeroed buffer") -/
structure WB (b : Buf) : Prop where
  bytes : BytesOK b.mem
  size : b.size = 8 * b.mem.length
  num : b.num ≤ b.size
  zero : ∀ k, b.num ≤ k → bit b.mem k = false

def content (b : Buf) : Bits := bitsFrom b.mem 0 b.num

@[simp] theorem content_length (b : Buf) : (content b).length = b.num := bitsFrom_length _ _ _

theorem num_of_content_append {b b' : Buf} {w : Bits} (h : content b' = content b ++ w) : b'.num = b.num + w.length := by
  have := congrArg List.length h
  rwa [List.length_append, content_length, content_length] at this

/-- a read buffer: `size` valid bits, the array holds at least those (it may end with the byte of the last valid bit) -/
structure RB (b : Buf) : Prop where
  bytes : BytesOK b.mem
  size : b.size ≤ 8 * b.mem.length
  num : b.num ≤ b.size

def rest (b : Buf) : Bits := bitsFrom b.mem b.num (b.size - b.num)

@[simp] theorem rest_length (b : Buf) : (rest b).length = b.size - b.num := bitsFrom_length _ _ _

theorem bit_oob (m : Mem) (k : Nat) (h : 8 * m.length ≤ k) : bit m k = false := by
  rw [bit, List.getD_eq_getElem?_getD, List.getElem?_eq_none (le_div8 _ _ h)]
  exact Nat.zero_testBit _

theorem testBit_or_one_shl (x u j : Nat) : (x ||| (1 <<< u)).testBit j = (x.testBit j || decide (u = j)) := by
  rw [Nat.testBit_or, Nat.one_shiftLeft, Nat.testBit_two_pow]

theorem wb_zeroed (cap : Nat) : WB ⟨List.replicate cap 0, 8 * cap, 0⟩ :=
  ⟨bytesOK_replicate cap, by simp, Nat.zero_le _, fun k _ => by
    rw [bit, List.getD_eq_getElem?_getD]
    by_cases h : k / 8 < cap <;> simp [h]⟩

theorem orBit_spec (m : Mem) (hm : BytesOK m) (pos : Nat) (h : pos < 8 * m.length) :
    ∃ m', orBit m pos = some m' ∧ Upd m m' pos (pos + 1) (fun _ => true) := by
  unfold orBit
  have hi : pos / 8 < m.length := Nat.div_lt_of_lt_mul h
  rw [rd_of_lt _ _ hi]
  exact wr_upd m hm (pos / 8) (m.getD (pos / 8) 0 ||| (1 <<< (pos % 8))) (pos % 8) (pos % 8 + 1) (fun _ => true) hi (Nat.mod_lt _ (by decide))
    (fun j _ => by
      rw [testBit_or_one_shl]
      by_cases hj : pos % 8 = j
      · subst hj; simp
      · rw [if_neg (fun hr => hj (Nat.le_antisymm hr.1 (Nat.le_of_lt_succ hr.2)))]; simp [hj])
    (Nat.div_add_mod pos 8).symm (by rw [← Nat.add_assoc, Nat.div_add_mod])

theorem and_shl_one (x j : Nat) : x &&& (1 <<< j) = if x.testBit j then 2 ^ j else 0 := by
  apply Nat.eq_of_testBit_eq
  intro i
  rw [Nat.testBit_and, Nat.one_shiftLeft, Nat.testBit_two_pow]
  by_cases h : j = i
  · subst h
    cases hx : x.testBit j <;> simp
  · cases hx : x.testBit j <;> simp [h]

theorem and_shl_one_ne (x j : Nat) : (x &&& (1 <<< j) ≠ 0) ↔ x.testBit j = true := by
  rw [and_shl_one]
  cases hx : x.testBit j <;> simp

theorem testAt_spec (m : Mem) (pos : Nat) (h : pos < 8 * m.length) : testAt m pos = some (bit m pos) := by
  unfold testAt
  rw [rd_of_lt _ _ (Nat.div_lt_of_lt_mul h)]
  simp only [Option.bind_some, bit, and_shl_one_ne, Bool.decide_eq_true]

/-- the store sequence put the bit string `w` at bit `pos` and changed nothing else -/
def Writes (m m' : Mem) (pos : Nat) (w : Bits) : Prop := Upd m m' pos (pos + w.length) (fun k => w.getD (k - pos) false)

theorem Writes.nil {m : Mem} (hm : BytesOK m) (pos : Nat) : Writes m m pos [] := Upd.empty hm (Nat.le_refl _) _

/-- the one-bit store of `bitbuf_write_bit` and of the `n = 1` path of `bitbuf_write_bits`: `|=` for a one, nothing for a zero (the buffer is zero there) -/
theorem bit_store (x : Bool) (m : Mem) (pos : Nat) (hm : BytesOK m) (hz : bit m pos = false) (hfit : pos + 1 ≤ 8 * m.length) :
    ∃ m', (if x then orBit m pos else some m) = some m' ∧ Writes m m' pos [x] := by
  have h0 : ∀ k, pos ≤ k → k < pos + 1 → [x].getD (k - pos) false = x := fun k h1 h2 => by
    rw [Nat.sub_eq_zero_of_le (Nat.le_of_lt_succ h2)]; rfl
  cases x
  · exact ⟨m, rfl, Upd.of_eq hm fun k h1 h2 => by rw [h0 k h1 h2, Nat.le_antisymm (Nat.le_of_lt_succ h2) h1, hz]⟩
  · obtain ⟨m', h, hu⟩ := orBit_spec m hm pos (Nat.lt_of_succ_le hfit)
    exact ⟨m', h, hu.congr fun k h1 h2 => (h0 k h1 h2).symm⟩

theorem Writes.append {m m1 m2 : Mem} {pos : Nat} {w1 w2 : Bits} (h1 : Writes m m1 pos w1) (h2 : Writes m1 m2 (pos + w1.length) w2) :
    Writes m m2 pos (w1 ++ w2) := by
  have e : pos + (w1 ++ w2).length = pos + w1.length + w2.length := by rw [List.length_append, Nat.add_assoc]
  refine ((h1.congr fun k hk1 hk2 => ?_).trans (h2.congr fun k hk1 hk2 => ?_) (Nat.le_add_right _ _) (Nat.le_add_right _ _)).cast rfl e.symm
  · simp only [List.getD]
    rw [List.getElem?_append_left (Nat.sub_lt_left_of_lt_add hk1 hk2)]
  · simp only [List.getD]
    rw [List.getElem?_append_right (Nat.le_sub_of_add_le' hk1), Nat.sub_sub]

theorem Writes.zero_above {m m' : Mem} {pos : Nat} {w : Bits} (h : Writes m m' pos w) (hz : ∀ k, pos ≤ k → bit m k = false) :
    ∀ k, pos + w.length ≤ k → bit m' k = false := by
  intro k hk
  rw [h.2.2 k, if_neg (fun hr => Nat.lt_irrefl _ (Nat.lt_of_lt_of_le hr.2 hk))]
  exact hz k (Nat.le_trans (Nat.le_add_right _ _) hk)

theorem wb_extend (b : Buf) (hb : WB b) (m' : Mem) (w : Bits) (hfit : b.num + w.length ≤ b.size) (hu : Writes b.mem m' b.num w) :
    WB { b with mem := m', num := b.num + w.length } ∧ content { b with mem := m', num := b.num + w.length } = content b ++ w := by
  obtain ⟨hlen, hok, hbits⟩ := hu
  constructor
  · exact ⟨hok, by simp [hlen, hb.size], hfit, Writes.zero_above ⟨hlen, hok, hbits⟩ hb.zero⟩
  · unfold content
    simp only
    rw [bitsFrom_append]
    congr 1
    · apply bitsFrom_congr
      intro k _ h2
      rw [hbits k, if_neg (fun hr => Nat.lt_irrefl _ (Nat.lt_of_lt_of_le h2 (Nat.zero_add _ ▸ hr.1)))]
    · apply bitsFrom_eq
      intro i hi
      rw [hbits (0 + b.num + i), Nat.zero_add, if_pos ⟨Nat.le_add_right _ _, Nat.add_lt_add_left hi _⟩]
      exact congrArg (w.getD · false) (Nat.add_sub_cancel_left ..)

/-- what every `bitbuf_write_*` does on a zeroed buffer: with room for `need` bits it appends `w`, without it refuses and touches nothing -/
def Appends (wrt : Buf → Option (Bool × Buf)) (need : Nat) (w : Bits) : Prop :=
  ∀ b, WB b →
    (b.num + need ≤ b.size → ∃ b', wrt b = some (true, b') ∧ WB b' ∧ b'.size = b.size ∧ content b' = content b ++ w) ∧
    (¬ b.num + need ≤ b.size → wrt b = some (false, b))

/-- the shape all writers share: the room check, then a store sequence that replaces the `n` bits at the cursor by `w` and returns the cursor behind them -/
theorem appends_of_cursor_store (wrt : Buf → Option (Bool × Buf)) (need n : Nat) (w : Bits) (hn : w.length = n) (hneed : n ≤ need)
    (store : Mem → Nat → Option (Mem × Nat))
    (hshape : ∀ b, wrt b = if !allowOpt b need then some (false, b)
      else (store b.mem b.num).bind fun (m, pos) => some (true, { b with mem := m, num := pos }))
    (hstore : ∀ m pos, BytesOK m → (∀ k, pos ≤ k → bit m k = false) → pos + n ≤ 8 * m.length →
      ∃ m', store m pos = some (m', pos + n) ∧ Writes m m' pos w) :
    Appends wrt need w := by
  intro b hb
  subst hn
  rw [hshape b]
  constructor
  · intro hfit
    have hfit' : b.num + w.length ≤ b.size := Nat.le_trans (Nat.add_le_add_left hneed _) hfit
    obtain ⟨m', hm, hu⟩ := hstore b.mem b.num hb.bytes hb.zero (hb.size ▸ hfit')
    have := wb_extend b hb m' w hfit' hu
    simp only [allowOpt, hfit, decide_true, Bool.not_true, Bool.false_eq_true, if_false, hm, Option.bind_some]
    exact ⟨_, rfl, this.1, rfl, this.2⟩
  · intro hno
    simp [allowOpt, hno]

/-- the same for a store sequence that leaves advancing the cursor to the caller -/
theorem appends_of_store (wrt : Buf → Option (Bool × Buf)) (need n : Nat) (w : Bits) (hn : w.length = n) (hneed : n ≤ need)
    (store : Mem → Nat → Option Mem)
    (hshape : ∀ b, wrt b = if !allowOpt b need then some (false, b)
      else (store b.mem b.num).bind fun m => some (true, { b with mem := m, num := b.num + n }))
    (hstore : ∀ m pos, BytesOK m → (∀ k, pos ≤ k → bit m k = false) → pos + n ≤ 8 * m.length →
      ∃ m', store m pos = some m' ∧ Writes m m' pos w) :
    Appends wrt need w :=
  appends_of_cursor_store wrt need n w hn hneed (fun m pos => (store m pos).bind fun m' => some (m', pos + n))
    (fun b => by rw [hshape b]; cases store b.mem b.num <;> rfl)
    (fun m pos hm hz hfit => by
      obtain ⟨m', h, hu⟩ := hstore m pos hm hz hfit
      exact ⟨m', by rw [h]; rfl, hu⟩)

end Utcp.BB
