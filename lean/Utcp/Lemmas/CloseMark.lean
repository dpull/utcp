import Utcp.Lemmas.Retain
/-!
# Who marks a channel closed (receiver side of C10)

A channel's `bClose` mark is what the deferred teardown of `utcp_update` acts on.  `CStep c c'`: between `c` and `c'` the log only grew
and every channel that is marked closed in `c'` either was already marked in `c` or is *justified by the log*: a callback in `c'.log`
delivered a close bunch on that channel (`ClosedBy`).  Every function of the library except the local send of a close bunch is a
`CStep`; so a channel is never marked closed — and hence never torn down — before a close bunch has been handed to the application in
sequence on it (or the local application closed it itself).
-/
namespace Utcp
open Gen

def ClosedBy (log : List Event) (ch : Nat) : Prop := ∃ g, Event.recv g ∈ log ∧ ∃ q ∈ g, q.bClose = true ∧ q.chIndex = ch

theorem ClosedBy.mono {log : List Event} {ch : Nat} (h : ClosedBy log ch) (new : List Event) : ClosedBy (new ++ log) ch := by
  obtain ⟨g, hg, hq⟩ := h
  exact ⟨g, List.mem_append_right _ hg, hq⟩

structure CStep (c c' : Conn) : Prop where
  log : ∃ new, c'.log = new ++ c.log
  mark : ∀ ch x', c'.getChan ch = some x' → x'.bClose = true → (∃ x, c.getChan ch = some x ∧ x.bClose = true) ∨ ClosedBy c'.log ch

theorem CStep.refl (c : Conn) : CStep c c := ⟨⟨[], rfl⟩, fun _ x' hx hb => Or.inl ⟨x', hx, hb⟩⟩

theorem CStep.trans {a b c : Conn} (h1 : CStep a b) (h2 : CStep b c) : CStep a c := by
  obtain ⟨n1, l1⟩ := h1.log
  obtain ⟨n2, l2⟩ := h2.log
  refine ⟨⟨n2 ++ n1, by rw [l2, l1, List.append_assoc]⟩, ?_⟩
  intro ch x' hx hb
  rcases h2.mark ch x' hx hb with ⟨x, hx2, hb2⟩ | h
  · rcases h1.mark ch x hx2 hb2 with h | h
    · exact Or.inl h
    · right; rw [l2]; exact h.mono n2
  · exact Or.inr h

theorem CStep.of_chans {c c' : Conn} (hc : c'.chans = c.chans) (hl : ∃ new, c'.log = new ++ c.log) : CStep c c' :=
  ⟨hl, fun ch x' hx hb => Or.inl ⟨x', by rw [← getChan_of_chans hc]; exact hx, hb⟩⟩

theorem CStep.of_adds {P : Event → Prop} {c c' : Conn} (hc : c'.chans = c.chans) (ha : Adds P c c') : CStep c c' := by
  obtain ⟨new, hl, _⟩ := ha
  exact CStep.of_chans hc ⟨new, hl⟩

theorem setChan_cstep (c : Conn) (ch : Nat) (x x' : Channel) (h : c.getChan ch = some x) (hb : x'.bClose = x.bClose) : CStep c (c.setChan ch x') := by
  refine ⟨⟨[], rfl⟩, ?_⟩
  intro ch2 y hy hyb
  by_cases he : ch2 = ch
  · subst he
    rw [getChan_setChan_self] at hy; cases hy
    exact Or.inl ⟨x, h, by rw [← hb]; exact hyb⟩
  · rw [getChan_setChan_other he] at hy
    exact Or.inl ⟨y, hy, hyb⟩

theorem emit_cstep (c : Conn) (ev : Event) : CStep c (c.emit ev) := CStep.of_chans rfl ⟨[ev], rfl⟩
theorem markClose_cstep (c : Conn) (r : Nat) : CStep c (c.markClose r) := CStep.of_chans (markClose_chans c r) ⟨[], by rw [markClose_log]; rfl⟩
theorem freeNodes_cstep (c : Conn) (k : Nat) : CStep c (c.freeNodes k) := CStep.of_adds (freeNodes_chans c k) (freeNodes_adds (P := isFreeNode) trivial c k)

/-- delivering `g` — marking the channels of its closing bunches, then the callback — is justified by the callback itself -/
theorem noteClose_recv_cstep (g : List Bunch) (c : Conn) : CStep c ((g.foldl Conn.noteClose c).emit (.recv g)) := by
  obtain ⟨new, hl, _⟩ := (adds_cclosed fun _ => True).foldl_noteClose g c
  refine ⟨⟨.recv g :: new, by show Event.recv g :: _ = _; rw [hl]; rfl⟩, ?_⟩
  intro ch x' hx hb
  rcases foldl_noteClose_getChan g ch c with h | h
  · exact .inl ⟨x', by rw [← h]; exact hx, hb⟩
  · exact .inr ⟨g, List.mem_cons_self, h⟩

theorem cstep_sclosed (e : Env) : SClosed e CStep where
  refl := CStep.refl
  trans := CStep.trans
  startPacket _ := CStep.of_chans rfl ⟨[], rfl⟩
  flushNow _ _ := CStep.of_chans rfl ⟨[_], rfl⟩
  append _ _ := CStep.of_chans rfl ⟨[], rfl⟩
  setOut c ch x _ hx := setChan_cstep c ch x _ hx rfl

theorem cstep_nclosed (e : Env) : NClosed e CStep :=
  (cstep_sclosed e).toNClosed (fun c => emit_cstep c _) (fun _ => CStep.of_chans rfl ⟨[], rfl⟩) (fun _ => CStep.of_chans rfl ⟨[], rfl⟩)
    (fun c _ _ => emit_cstep c _) (fun _ _ _ _ _ => CStep.of_chans rfl ⟨[], rfl⟩)

theorem createChan_cstep (c : Conn) (ch : Nat) (hn : c.getChan ch = none) : CStep c (c.createChan ch) := by
  obtain ⟨evs, cap, _, heq⟩ := createChan_eq c ch
  rw [heq]
  refine ⟨⟨evs, rfl⟩, ?_⟩
  intro ch2 y hy hyb
  by_cases he : ch2 = ch
  · subst he; rw [getChan_setChan_self] at hy; cases hy; cases hyb
  · rw [getChan_setChan_other he] at hy; exact Or.inl ⟨y, hy, hyb⟩

theorem RStep.cstep {B : Bunch → Prop} {δ : Int} {a b : Conn} (s : RStep B δ a b) : CStep a b := by
  have tk : ∀ {bn δ c0}, Taken B bn δ a c0 → CStep a c0 := by
    intro bn δ c0 ht
    cases ht with
    | wire => exact CStep.refl _
    | queue _ x _ hx => exact setChan_cstep a _ x _ hx rfl
  cases s with
  | alloc => exact emit_cstep _ _
  | drop => exact emit_cstep _ _
  | fail => exact markClose_cstep _ _
  | create _ h => exact createChan_cstep _ _ h
  | enqueue x _ _ _ hx => exact setChan_cstep a _ x _ hx rfl
  | single x bn ht hx =>
    have h1 := (tk ht).trans (setChan_cstep _ _ x (x.took bn) hx (by simp))
    exact (h1.trans (noteClose_recv_cstep [bn] _)).trans (emit_cstep _ _)
  | start x bn ht hx => exact (tk ht).trans ((freeNodes_cstep _ _).trans (setChan_cstep _ _ x _ (freeNodes_getChan_some hx) (by simp)))
  | append x bn _ ht hx => exact (tk ht).trans (setChan_cstep _ _ x _ hx (by simp))
  | refuse x bn ht hx => exact (tk ht).trans ((setChan_cstep _ _ x _ hx (by simp)).trans (emit_cstep _ _))
  | discard x bn ht hx => exact (tk ht).trans (((freeNodes_cstep _ _).trans (setChan_cstep _ _ x _ (freeNodes_getChan_some hx) (by simp))).trans (emit_cstep _ _))
  | stray _ ht => exact (tk ht).trans (emit_cstep _ _)
  | deliver ch x last hx =>
    obtain ⟨y, hy, _, heq⟩ := delivered_eq a ch x hx x.inPartial
    rw [heq]
    exact ((noteClose_recv_cstep x.inPartial a).trans (freeNodes_cstep _ x.inPartial.length)).trans (setChan_cstep _ _ y _ hy rfl)
  | overflow ch x hx => exact ((freeNodes_cstep _ _).trans (setChan_cstep _ _ x { x with inPartial := [] } (freeNodes_getChan_some hx) rfl)).trans (markClose_cstep _ _)

theorem flush_cstep (e : Env) (c : Conn) : CStep c (c.flush e) := (cstep_sclosed e).flush c

theorem receivedPacket_cstep (e : Env) (c : Conn) (bits : Bits) : CStep c (c.receivedPacket e bits).1 :=
  receivedPacket_closed CStep.refl CStep.trans markClose_cstep (cstep_nclosed e).notifyUpdate
    (fun fuel c bits skip => (bunchLoop_steps fuel c bits skip).rel CStep.refl CStep.trans RStep.cstep)
    (fun _ _ => CStep.of_chans rfl ⟨[], rfl⟩) (fun _ _ _ => CStep.of_chans rfl ⟨[], rfl⟩) c bits

/-- the periodic update marks nothing: every channel of the result is a channel of `c`, unchanged -/
theorem update_cstep (e : Env) (c : Conn) (hs : KeysSorted c.chans) : CStep c (c.checkTimeout e).updateTail.1 := by
  obtain ⟨new, hl, _⟩ := update_any e c
  refine ⟨⟨new, hl⟩, fun ch x' hx hb => .inl ⟨x', ?_, hb⟩⟩
  refine update_sorted_closed (R := fun c c' => ∀ ch x', c'.getChan ch = some x' → c.getChan ch = some x') (fun _ _ _ h => h)
    (fun h1 h2 ch x' h => h1 ch x' (h2 ch x' h)) (fun c r ch x' h => by rw [← markClose_getChan c r ch]; exact h) (fun _ _ _ _ h => h) ?_
    (fun _ _ _ _ h => h) e c hs ch x' hx
  intro c p _ _ _ _ ch x' h
  by_cases he : ch = p.1
  · subst he; rw [getChan_of_filter_self rfl] at h; cases h
  · rwa [getChan_of_filter_ne rfl he] at h

/-- every channel marked closed had a close bunch delivered on it, or is in the list `L` of channels the local application closed -/
def CloseInv (L : List Nat) (c : Conn) : Prop := ∀ ch x, c.getChan ch = some x → x.bClose = true → ClosedBy c.log ch ∨ ch ∈ L

theorem CloseInv.step {L : List Nat} {c c' : Conn} (h : CloseInv L c) (hs : CStep c c') : CloseInv L c' := by
  intro ch x' hx hb
  rcases hs.mark ch x' hx hb with ⟨x, hx0, hb0⟩ | hcl
  · obtain ⟨new, hl⟩ := hs.log
    rcases h ch x hx0 hb0 with h1 | h1
    · left; rw [hl]; exact h1.mono new
    · exact Or.inr h1
  · exact Or.inl hcl

theorem CloseInv.mono {L L' : List Nat} {c : Conn} (h : CloseInv L c) (hs : ∀ x ∈ L, x ∈ L') : CloseInv L' c := by
  intro ch x hx hb
  rcases h ch x hx hb with h1 | h1
  · exact Or.inl h1
  · exact Or.inr (hs ch h1)

/-- the channels the local application has closed, after `utcp_send_bunch` of `b` -/
def Conn.closedAfter (c : Conn) (b : Bunch) (L : List Nat) : List Nat :=
  match c.sendCheck b with
  | .inl _ => L
  | .inr _ => if b.bClose then b.chIndex :: L else L

theorem noteClose_closeinv (L : List Nat) (c : Conn) (b : Bunch) (h : CloseInv L c) : CloseInv (if b.bClose then b.chIndex :: L else L) (c.noteClose b) := by
  obtain ⟨n2, hl2, _⟩ := (adds_cclosed fun _ => True).noteClose c b
  intro ch x' hx hb
  rcases noteClose_getChan c b ch with hg | ⟨hbc, rfl⟩
  · rw [hg] at hx
    rcases h ch x' hx hb with h1 | h1
    · left; rw [hl2]; exact h1.mono n2
    · right; split
      · exact List.mem_cons_of_mem _ h1
      · exact h1
  · rw [if_pos hbc]; exact .inr List.mem_cons_self

theorem sendBunch_closeinv (L : List Nat) (e : Env) (c : Conn) (b : Bunch) (h : CloseInv L c) : CloseInv (c.closedAfter b L) (c.sendBunch e b).1 := by
  unfold Conn.closedAfter
  cases hchk : c.sendCheck b with
  | inl err => rw [sendBunch_refused e hchk]; exact h
  | inr h0 =>
    rw [sendBunch_accepted e hchk]
    exact (noteClose_closeinv L _ b (h.step ((getOrCreateChan_steps (B := fun _ => True) c b false).rel CStep.refl CStep.trans RStep.cstep))).step
      (sendCommit_closed (cstep_sclosed e).toBClosed (fun c ch x _ hx => setChan_cstep c ch x _ hx rfl) ((cstep_sclosed e).record fun c => emit_cstep c _) c b h0)

end Utcp
