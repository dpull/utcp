import Utcp.Lemmas.HsCodec
import Utcp.Lemmas.React
import Utcp.Lemmas.Packet
/-!
# The datagrams of a handshake: what an end emits, and what the other end does with exactly that datagram

For each of the four datagrams one equation: the codec round trip (`hs_wire`) followed by the receiver's reaction to the parsed data.  The
receiver's configuration `e` need not be the sender's (the clock has moved on); it has to frame alike, `readOutgoingHeader e = readOutgoingHeader e'`.
Then what `handshake_update` re-sends.
-/
namespace Utcp
open Gen

def zeroCookie : List UInt8 := List.replicate 20 0

/-- the initial datagram of a (not restarted) client with id `cid` whose send counter reads `cnt` -/
def initialPkt (e : Env) (rng : Rng) (cid cnt : Nat) : Rng × Bits :=
  capHandshake e rng 3 (hsPacket e 3 0 cid false ptInitial cnt e.checksum false 0 zeroCookie [])

/-- `SendInitialPacket` for a client that is not restarting -/
theorem sendInitial_step (e : Env) (rng : Rng) (ep : Endpoint) (ch : Challenge) (hch : ep.chal = some ch) (hr : ch.restarted = false) :
    ep.sendInitial e rng hsVersionLatest =
      ({ c := ep.c.emit (.out (bitsBytes (initialPkt e rng ch.clientId ch.sentCount).2)),
         chal := some { ch with sentCount := (ch.sentCount + 1) % 256, lastClientSendMs := e.nowMs } },
       (initialPkt e rng ch.clientId ch.sentCount).1) := by
  unfold Endpoint.sendInitial initialPkt
  simp only [hch, hr, hsVersionLatest, Gen.EHandshakeVersion_Latest]
  have h3 : (3 : Int).toNat = 3 := rfl
  simp only [h3]
  rw [hsPacket_eq]
  have := initial_eq e ch.clientId false ch.sentCount e.checksum
  simp only [zeroCookie]
  rw [← this]
  rfl

/-- `utcp_connect` emits the first initial datagram -/
theorem connect_step (e : Env) (rng : Rng) (counter : Nat) (ep : Endpoint) :
    ep.connect e rng counter =
      ({ c := ({ (ep.c.emit (.alloc .chal)) with connected := false }).emit (.out (bitsBytes (initialPkt e rng ((counter + 1) % 8) 0).2)),
         chal := some { clientId := (counter + 1) % 8, sentCount := 1, lastClientSendMs := e.nowMs } },
       (initialPkt e rng ((counter + 1) % 8) 0).1, counter + 1) := by
  have := sendInitial_step e rng ({ c := { (ep.c.emit (.alloc .chal)) with connected := false }, chal := some { clientId := (counter + 1) % 8 } } : Endpoint)
    { clientId := (counter + 1) % 8 } rfl rfl
  unfold Endpoint.connect
  simp only [this]

/-- what the listener's parse of the initial datagram yields -/
def initialData (e : Env) (cnt : Nat) : HsData :=
  { restart := false, minVer := 1, curVer := 3, netVer := e.checksum, ptype := ptInitial, sentCount := cnt, secretId := false, ts := 0,
    cookie := zeroCookie, origCookie := zeroCookie }

/-- **the initial datagram, at the listener**: answered with a challenge; the listener keeps no state and accepts nobody -/
theorem react_initialPkt {T} (tm : TimeOps T) (mac : Mac) (e e1 : Env) (rng r1 : Rng) (l : LState T) (addr : String) (cid cnt : Nat)
    (hfr : readOutgoingHeader e = readOutgoingHeader e1) (hm : e1.magic < 2 ^ e1.magicBits) (hck : e1.checksum < 4294967296) (hcnt : cnt < 256)
    (hz : tm.isZero (tm.ofBits 0) = true) (ha : addr.isEmpty = false) :
    l.react tm mac e rng addr (bitsBytes (initialPkt e1 r1 cid cnt).2) =
      { st := l, rng := (challengeFor tm mac e rng l addr (cid % 8) (initialData e1 cnt)).1, code := 0, acc := none,
        evs := [.out (bitsBytes (challengeFor tm mac e rng l addr (cid % 8) (initialData e1 cnt)).2)] } := by
  obtain ⟨b, r, w1, w2, w3⟩ := hs_wire e1 r1 0 cid false ptInitial cnt e1.checksum false 0 zeroCookie hm rfl (by decide) hcnt hck
  rw [← hfr] at w2
  have hi : ((initialData e1 cnt).ptype == ptInitial && tm.isZero (tm.ofBits (initialData e1 cnt).ts)) = true := by
    show (ptInitial == ptInitial && tm.isZero (tm.ofBits 0)) = true
    rw [hz]; rfl
  rw [react_of_wire tm mac e rng l addr (bitsBytes (initialPkt e1 r1 cid cnt).2) b r _ _ (initialData e1 cnt) w1 w2 w3,
    onHandshake_initial tm mac e rng l addr _ _ hi ha]

/-- what the client's parse of the challenge issued in answer to `hs` yields -/
def challengeData {T} (tm : TimeOps T) (mac : Mac) (e : Env) (l : LState T) (addr : String) (hs : HsData) : HsData :=
  { restart := false, minVer := 1, curVer := 3, netVer := hs.netVer, ptype := ptChallenge, sentCount := hs.sentCount, secretId := (l.active != 0),
    ts := tm.toBits (tm.now e.elapsedUs), cookie := l.cookie mac addr (l.active != 0) (tm.toBits (tm.now e.elapsedUs)), origCookie := zeroCookie }

/-- the response of a (not restarted) client with id `cid` and send counter `cnt`, echoing secret id, timestamp and cookie -/
def responsePktG (e : Env) (rng : Rng) (cid cnt : Nat) (sid : Bool) (ts : UInt64) (ck : List UInt8) : Rng × Bits :=
  capHandshake e rng 3 (hsPacket e 3 0 cid false ptResponse cnt e.checksum sid ts ck [])

/-- the response a client in state `ch` sends to challenge data `hs` -/
def responsePkt (e : Env) (rng : Rng) (ch : Challenge) (hs : HsData) : Rng × Bits :=
  responsePktG e rng ch.clientId ch.sentCount hs.secretId hs.ts hs.cookie

/-- `SendChallengeResponse` for a client that is not restarting -/
theorem sendResponse_step (e : Env) (rng : Rng) (ep : Endpoint) (ch : Challenge) (sid : Bool) (ts : UInt64) (ck : List UInt8)
    (hch : ep.chal = some ch) (hr : ch.restarted = false) :
    ep.sendResponse e rng sid ts ck =
      ({ c := ep.c.emit (.out (bitsBytes (responsePktG e rng ch.clientId ch.sentCount sid ts ck).2)),
         chal := some { ch with sentCount := (ch.sentCount + 1) % 256, lastClientSendMs := e.nowMs, lastSecretId := sid, lastTs := ts, lastCookie := ck } },
       (responsePktG e rng ch.clientId ch.sentCount sid ts ck).1) := by
  unfold Endpoint.sendResponse responsePktG
  simp only [hch, hr, Bool.false_eq_true, if_false, hsVersionLatest, Gen.EHandshakeVersion_Latest]
  rfl

/-- **the challenge, at a client that has not completed the handshake**: answered with the response echoing its secret id, timestamp and cookie -/
theorem incoming_challengePkt {T} (tm : TimeOps T) (mac : Mac) (e e2 : Env) (rng r2 : Rng) (ep : Endpoint) (ch : Challenge) (l : LState T)
    (addr : String) (cid : Nat) (hs : HsData)
    (hfr : readOutgoingHeader e = readOutgoingHeader e2) (hm : e2.magic < 2 ^ e2.magicBits) (hmac : ∀ k m, (mac k m).length = 20)
    (hv : hs.curVer = 3) (hcnt : hs.sentCount < 256) (hnv : hs.netVer < 4294967296)
    (hch : ep.chal = some ch) (hst : ch.state = stUnInit ∨ ch.state = stLocal) (hr : ch.restarted = false)
    (hpos : tm.gt0 (tm.ofBits (tm.toBits (tm.now e2.elapsedUs))) = true) :
    ep.incoming tm e rng (bitsBytes (challengeFor tm mac e2 r2 l addr cid hs).2) =
      ({ c := ep.c.emit (.out (bitsBytes (responsePkt e rng ch (challengeData tm mac e2 l addr hs)).2)),
         chal := some { ch with lastChallengeMs := e.nowMs, sentCount := (ch.sentCount + 1) % 256, lastClientSendMs := e.nowMs,
                                lastSecretId := (l.active != 0), lastTs := tm.toBits (tm.now e2.elapsedUs),
                                lastCookie := l.cookie mac addr (l.active != 0) (tm.toBits (tm.now e2.elapsedUs)), state := stLocal } },
       (responsePkt e rng ch (challengeData tm mac e2 l addr hs)).1, true) := by
  obtain ⟨b, r, w1, w2, w3⟩ := hs_wire e2 r2 (e2.travel % 4) cid false ptChallenge hs.sentCount hs.netVer (l.active != 0)
    (tm.toBits (tm.now e2.elapsedUs)) _ hm (hmac _ _) (by decide) hcnt hnv
  rw [← hfr] at w2
  unfold challengeFor
  rw [hv]
  refine incoming_of_wire tm e rng ep _ b r _ _ (challengeData tm mac e2 l addr hs) w1 w2 w3 ?_
  rw [handshakeIncoming_pending tm e rng ep ch _ _ hch hst rfl, if_pos (by rw [Bool.and_eq_true]; exact ⟨rfl, hpos⟩),
    sendResponse_step e rng _ { ch with lastChallengeMs := e.nowMs } _ _ _ rfl hr]
  simp only [responsePkt, Option.map_some]
  rfl

/-- what the listener's parse of a response yields -/
def responseDataG (e : Env) (cnt : Nat) (sid : Bool) (ts : UInt64) (ck : List UInt8) : HsData :=
  { restart := false, minVer := 1, curVer := 3, netVer := e.checksum, ptype := ptResponse, sentCount := cnt, secretId := sid,
    ts := ts, cookie := ck, origCookie := zeroCookie }

def responseData (e : Env) (ch : Challenge) (hs : HsData) : HsData := responseDataG e ch.sentCount hs.secretId hs.ts hs.cookie

theorem response_wire (e : Env) (rng : Rng) (ch : Challenge) (hs : HsData)
    (hm : e.magic < 2 ^ e.magicBits) (hc : hs.cookie.length = 20) (hcnt : ch.sentCount < 256) (hck : e.checksum < 4294967296) :
    ∃ bits rest, readInit (bitsBytes (responsePkt e rng ch hs).2) = some bits ∧
      readOutgoingHeader e bits = .ok (0, ch.clientId % 8, true) rest ∧ parseHandshake rest = some (responseData e ch hs) :=
  hs_wire e rng 0 ch.clientId false ptResponse ch.sentCount e.checksum _ _ _ hm hc (by decide) hcnt hck

/-- **the response, at the listener**: one whose timestamp passes the lifetime and rotation tests and whose cookie `ck` is the one this listener
state issues for this address is accepted -/
theorem react_responsePkt {T} (tm : TimeOps T) (mac : Mac) (e e3 : Env) (rng r3 : Rng) (l : LState T) (addr : String) (cid cnt : Nat)
    (sid : Bool) (ts : UInt64) (ck : List UInt8)
    (hfr : readOutgoingHeader e = readOutgoingHeader e3) (hm : e3.magic < 2 ^ e3.magicBits) (hck : e3.checksum < 4294967296)
    (hmac : ∀ k m, (mac k m).length = 20) (hcnt : cnt < 256) (ha : addr.isEmpty = false) (hc : ck = l.cookie mac addr sid ts)
    (hlife : LState.validLife tm e (responseDataG e3 cnt sid ts ck) = true) (hsec : l.validSecret tm (responseDataG e3 cnt sid ts ck) = true) :
    l.react tm mac e rng addr (bitsBytes (responsePktG e3 r3 cid cnt sid ts ck).2) =
      { st := { l with addrScratch := (addr.toUTF8.toList).drop 1 }, rng := (ackFor e rng (cid % 8) (responseDataG e3 cnt sid ts ck)).1, code := 0,
        evs := [.accept false addr, .out (bitsBytes (ackFor e rng (cid % 8) (responseDataG e3 cnt sid ts ck)).2)],
        acc := some { addr := addr, restarted := false, cookie := ck, serverSeq := seqFromCookie ck 0, clientSeq := seqFromCookie ck 1 } } := by
  obtain ⟨b, r, w1, w2, w3⟩ := hs_wire e3 r3 0 cid false ptResponse cnt e3.checksum sid ts ck hm (by rw [hc]; exact hmac _ _) (by decide) hcnt hck
  rw [← hfr] at w2
  have hd : l.decision tm mac e addr (responseDataG e3 cnt sid ts ck) = 0 := by
    unfold LState.decision LState.cookieOk
    rw [hlife, hsec]
    show (if (!(l.cookie mac addr sid ts == ck)) = true then (-7 : Int) else 0) = 0
    rw [← hc]
    simp
  rw [react_of_wire tm mac e rng l addr (bitsBytes (responsePktG e3 r3 cid cnt sid ts ck).2) b r _ _ (responseDataG e3 cnt sid ts ck) w1 w2 w3,
    onHandshake_accepted tm mac e rng l addr _ _ (by rfl) hd]
  show ({ st := _, rng := _, code := 0, evs := [.accept false (if addr.isEmpty then "-" else addr), _], acc := _ } : Reaction T) = _
  rw [ha]
  rfl

/-- what the client's parse of the ack of response data `hs` yields -/
def ackData (hs : HsData) : HsData :=
  { restart := false, minVer := 1, curVer := 3, netVer := hs.netVer, ptype := ptAck, sentCount := hs.sentCount, secretId := true,
    ts := 0xBFF0000000000000, cookie := hs.cookie, origCookie := zeroCookie }

/-- **the ack, at a client that has not completed the handshake**: it completes it -/
theorem incoming_ackPkt {T} (tm : TimeOps T) (e e4 : Env) (rng r4 : Rng) (ep : Endpoint) (ch : Challenge) (cid : Nat) (hs : HsData)
    (hfr : readOutgoingHeader e = readOutgoingHeader e4) (hm : e4.magic < 2 ^ e4.magicBits)
    (hv : hs.curVer = 3) (hrs : hs.restart = false) (hc : hs.cookie.length = 20) (hcnt : hs.sentCount < 256) (hnv : hs.netVer < 4294967296)
    (hch : ep.chal = some ch) (hst : ch.state = stUnInit ∨ ch.state = stLocal) (hneg : tm.lt0 (tm.ofBits 0xBFF0000000000000) = true) :
    ep.incoming tm e rng (bitsBytes (ackFor e4 r4 cid hs).2) = (ep.onAck e ch (ackData hs), rng, true) := by
  obtain ⟨b, r, w1, w2, w3⟩ := hs_wire e4 r4 (e4.travel % 4) cid false ptAck hs.sentCount hs.netVer true 0xBFF0000000000000 hs.cookie hm hc
    (by decide) hcnt hnv
  rw [← hfr] at w2
  unfold ackFor
  rw [hv, hrs]
  refine incoming_of_wire tm e rng ep _ b r _ _ (ackData hs) w1 w2 w3 ?_
  have h2 : (ptAck == ptChallenge) = false := by decide
  rw [handshakeIncoming_pending tm e rng ep ch _ _ hch hst rfl]
  simp only [ackData, h2, Bool.false_and, Bool.false_eq_true, if_false, beq_self_eq_true, hneg, Bool.and_self, if_true]

/-- the retransmission timer of a pending handshake has fired -/
def retryDue (e : Env) (ch : Challenge) : Prop := ch.lastClientSendMs ≠ 0 ∧ e.nowMs - ch.lastClientSendMs ≥ 1000

/-- the challenge the client holds is older than `MIN_COOKIE_LIFETIME` (or it never held one) -/
def chalExpired (e : Env) (ch : Challenge) : Prop := e.nowMs - ch.lastChallengeMs > Gen.MIN_COOKIE_LIFETIME_S * 1000

/-- a client without a usable challenge starts over: it re-sends the initial packet -/
theorem update_retry_initial {T} (tm : TimeOps T) (e : Env) (rng : Rng) (ep : Endpoint) (ch : Challenge)
    (hch : ep.chal = some ch) (hr : ch.restarted = false) (hdue : retryDue e ch) (hst : ch.state = stUnInit ∨ chalExpired e ch) :
    ep.handshakeUpdate tm e rng =
      ({ c := ep.c.emit (.out (bitsBytes (initialPkt e rng ch.clientId ch.sentCount).2)),
         chal := some { ch with state := stUnInit, sentCount := (ch.sentCount + 1) % 256, lastClientSendMs := e.nowMs } },
       (initialPkt e rng ch.clientId ch.sentCount).1) := by
  unfold Endpoint.handshakeUpdate
  obtain ⟨hd1, hd2⟩ := hdue
  have h1 : (ch.lastClientSendMs == 0) = false := by simpa using hd1
  have h2 : ¬ (e.nowMs - ch.lastClientSendMs < 1000) := by omega
  simp only [hch, h1, Bool.false_eq_true, if_false, h2]
  by_cases hx : e.nowMs - ch.lastChallengeMs > Gen.MIN_COOKIE_LIFETIME_S * 1000
  · simp only [hx, decide_true, if_true, beq_self_eq_true]
    rw [sendInitial_step e rng _ { ch with state := stUnInit } rfl hr]
  · have hs : ch.state = stUnInit := by
      rcases hst with h | h
      · exact h
      · exact absurd h hx
    simp only [hx, decide_false, Bool.false_eq_true, if_false, hs, beq_self_eq_true, if_true]
    rw [sendInitial_step e rng _ ch rfl hr]
    cases ch
    simp only at hs
    simp only [hs]

/-- a client holding a fresh challenge re-sends its response, with the stored secret id, timestamp and cookie -/
theorem update_retry_response {T} (tm : TimeOps T) (e : Env) (rng : Rng) (ep : Endpoint) (ch : Challenge)
    (hch : ep.chal = some ch) (hr : ch.restarted = false) (hdue : retryDue e ch) (hst : ch.state = stLocal) (hx : ¬ chalExpired e ch)
    (hnz : tm.isZero (tm.ofBits ch.lastTs) = false) :
    ep.handshakeUpdate tm e rng =
      ({ c := ep.c.emit (.out (bitsBytes (responsePktG e rng ch.clientId ch.sentCount ch.lastSecretId ch.lastTs ch.lastCookie).2)),
         chal := some { ch with sentCount := (ch.sentCount + 1) % 256, lastClientSendMs := e.nowMs } },
       (responsePktG e rng ch.clientId ch.sentCount ch.lastSecretId ch.lastTs ch.lastCookie).1) := by
  unfold Endpoint.handshakeUpdate
  obtain ⟨hd1, hd2⟩ := hdue
  have h1 : (ch.lastClientSendMs == 0) = false := by simpa using hd1
  have h2 : ¬ (e.nowMs - ch.lastClientSendMs < 1000) := by omega
  unfold chalExpired at hx
  have h3 : (stLocal == stUnInit) = false := by decide
  simp only [hch, h1, Bool.false_eq_true, if_false, h2, hx, decide_false, hst, h3, beq_self_eq_true, hnz, Bool.not_false, Bool.and_self, if_true]
  rw [sendResponse_step e rng _ ch _ _ _ rfl hr]
  simp only [hst]

end Utcp
