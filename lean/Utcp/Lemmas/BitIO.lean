import Utcp.BitIO
/-! The bit primitives of `Utcp/BitIO.lean`: each reader undoes its writer whatever follows (bit runs, bytes, words, bounded, wrapped and
packed integers: the round trips `Props/C12.lean` states), and how many bits the writers produce. -/
namespace Utcp

@[simp] theorem readBit_cons (b : Bool) (rest : Bits) : readBit (b :: rest) = .ok b rest := rfl

theorem readBits_append (bs rest : Bits) : readBits bs.length (bs ++ rest) = .ok bs rest := by
  simp [readBits]

theorem readBits_append' (n : Nat) (bs rest : Bits) (h : bs.length = n) : readBits n (bs ++ rest) = .ok bs rest := by
  subst h; exact readBits_append bs rest

theorem readBits_fail (n : Nat) (bs : Bits) (h : bs.length < n) : readBits n bs = .fail bs := by
  unfold readBits
  rw [if_neg (Nat.not_le.mpr h)]

theorem readBits_eq_ok {n : Nat} {bs v r : Bits} (h : readBits n bs = .ok v r) : v.length = n ∧ v ++ r = bs := by
  unfold readBits at h
  split at h
  · cases h; exact ⟨List.length_take_of_le ‹_›, List.take_append_drop n bs⟩
  · cases h

theorem readByte_write (v : Nat) (rest : Bits) : readByte (writeByte v ++ rest) = .ok (v % 256) rest := by
  unfold readByte writeByte
  rw [readBits_append' 8 _ _ (by simp)]
  simp [bitsToNat_natToBits]

theorem readU32_write (v : Nat) (rest : Bits) : readU32 (writeU32 v ++ rest) = .ok (v % 4294967296) rest := by
  unfold readU32 writeU32
  rw [readBits_append' 32 _ _ (by simp)]
  simp [bitsToNat_natToBits]

theorem readU32_ok (bs : Bits) (h : 32 ≤ bs.length) : readU32 bs = .ok (bitsToNat (bs.take 32)) (bs.drop 32) := by
  unfold readU32 readBits
  rw [if_pos h]

theorem readU32_fail (bs : Bits) (h : ¬ 32 ≤ bs.length) : readU32 bs = .fail bs := by
  unfold readU32 readBits
  rw [if_neg h]

/-! ## fields packed into disjoint ranges of a number -/

theorem pack_div (a b m : Nat) (hb : b < m) : (a * m + b) / m = a := by
  rw [Nat.mul_comm, Nat.mul_add_div (Nat.zero_lt_of_lt hb), Nat.div_eq_of_lt hb, Nat.add_zero]

theorem pack_mod (a b m : Nat) (hb : b < m) : (a * m + b) % m = b := by
  rw [Nat.mul_comm, Nat.mul_add_mod, Nat.mod_eq_of_lt hb]

theorem pack_lt (a b m n : Nat) (ha : a < n) (hb : b < m) : a * m + b < n * m :=
  calc a * m + b < a * m + m := Nat.add_lt_add_left hb _
    _ = (a + 1) * m := (Nat.succ_mul a m).symm
    _ ≤ n * m := Nat.mul_le_mul_right m ha

theorem pack_or (a b m k : Nat) (hm : m = 2 ^ k) (hb : b < m) : a * m ||| b = a * m + b := by
  subst hm; rw [Nat.mul_comm]; exact (Nat.two_pow_add_eq_or_of_lt hb a).symm

theorem mod_double (v mask : Nat) : v % (mask * 2) = v % mask + mask * (v / mask % 2) := by
  rw [Nat.mod_mul]

theorem mul_two_pow_succ (m k : Nat) : m * 2 ^ (k + 1) = m * 2 * 2 ^ k := by
  rw [Nat.pow_succ, Nat.mul_comm _ 2, Nat.mul_assoc]

/-- while the loop runs, it writes bit `mask` of `v` and adds that bit's weight to the value written so far: both branches in one,
so that `mod_double` carries `nv = v % mask` to the next turn -/
theorem wInt_step {fuel v mx mask nv : Nat} (h : nv + mask < mx ∧ mask < 2 ^ 32) :
    wInt (fuel + 1) v mx mask nv = (v / mask % 2 == 1) :: wInt fuel v mx (mask * 2) (nv + mask * (v / mask % 2)) := by
  rw [wInt, if_pos h]
  rcases Nat.mod_two_eq_zero_or_one (v / mask) with hb | hb <;> rw [hb]
  · rfl
  · rw [if_pos rfl, Nat.mul_one]; rfl

theorem wInt_stop {fuel v mx mask nv : Nat} (h : ¬ (nv + mask < mx ∧ mask < 2 ^ 32)) : wInt fuel v mx mask nv = [] := by
  cases fuel with
  | zero => rfl
  | succ f => rw [wInt, if_neg h]

theorem rIntLoop_step {fuel mx mask nv : Nat} {start : Bits} (h : nv + mask < mx ∧ mask < 2 ^ 32) (x : Nat) (rest : Bits) :
    rIntLoop (fuel + 1) mx mask nv start ((x % 2 == 1) :: rest) = rIntLoop fuel mx (mask * 2) (nv + mask * (x % 2)) start rest := by
  rw [rIntLoop, if_pos h]
  rcases Nat.mod_two_eq_zero_or_one x with hb | hb <;> rw [hb]
  · rfl
  · rw [Nat.mul_one]; rfl

theorem rIntLoop_stop {fuel mx mask nv : Nat} {start : Bits} (h : ¬ (nv + mask < mx ∧ mask < 2 ^ 32)) (bs : Bits) :
    rIntLoop fuel mx mask nv start bs = .ok nv bs := by
  cases fuel with
  | zero => rfl
  | succ f => unfold rIntLoop; exact if_neg h

/-- early stop: once the bits written so far plus the next weight reach `mx`, a value below `mx` has no further bit set -/
theorem lt_of_stop {v mx mask : Nat} (hv : v < mx) (hmx : mx ≤ 2 ^ 32) (h : ¬ (v % mask + mask < mx ∧ mask < 2 ^ 32)) : v < mask :=
  Nat.lt_of_not_le fun hge =>
    have h1 : v % mask + mask ≤ v := by rw [Nat.mod_eq_sub_mod hge]; exact Nat.add_le_of_le_sub hge (Nat.mod_le _ _)
    h ⟨Nat.lt_of_le_of_lt h1 hv, Nat.lt_of_le_of_lt hge (Nat.lt_of_lt_of_le hv hmx)⟩

theorem rInt_wInt (fuel v mx : Nat) (rest start : Bits) (hv : v < mx) (hmx : mx ≤ 2 ^ 32) :
    ∀ mask, v < mask * 2 ^ fuel →
      rIntLoop fuel mx mask (v % mask) start (wInt fuel v mx mask (v % mask) ++ rest) = .ok v rest := by
  induction fuel with
  | zero =>
    intro mask hlt
    rw [Nat.pow_zero, Nat.mul_one] at hlt
    rw [Nat.mod_eq_of_lt hlt]; rfl
  | succ f ih =>
    intro mask hlt
    by_cases h : v % mask + mask < mx ∧ mask < 2 ^ 32
    · rw [wInt_step h, List.cons_append, rIntLoop_step h, ← mod_double]
      exact ih (mask * 2) (by rwa [mul_two_pow_succ] at hlt)
    · rw [wInt_stop h, rIntLoop_stop h, Nat.mod_eq_of_lt (lt_of_stop hv hmx h)]; rfl

theorem rIntLoop_lt (mx : Nat) (start : Bits) : ∀ (fuel mask nv : Nat) (bs : Bits) (v : Nat) (r : Bits), nv < mx →
    rIntLoop fuel mx mask nv start bs = .ok v r → v < mx := by
  intro fuel
  induction fuel with
  | zero => intro mask nv bs v r hnv h; cases h; exact hnv
  | succ f ih =>
    intro mask nv bs v r hnv h
    by_cases hc : nv + mask < mx ∧ mask < 2 ^ 32
    · cases bs with
      | nil => rw [rIntLoop, if_pos hc] at h; cases h
      | cons x rest =>
        rw [rIntLoop, if_pos hc] at h
        -- the value read so far stays below `mx`, since `nv + mask < mx`
        exact ih (mask * 2) _ rest v r (by split <;> omega) h
    · rw [rIntLoop_stop hc] at h; cases h; exact hnv

theorem readInt_lt (mx : Nat) (hmx : 0 < mx) (bs : Bits) (v : Nat) (r : Bits) (h : readInt mx bs = .ok v r) : v < mx :=
  rIntLoop_lt mx bs 33 1 0 bs v r hmx h

theorem readInt_writeInt (v mx : Nat) (rest : Bits) (hv : v < mx) (hmx : mx ≤ 2^32) :
    readInt mx (writeInt v mx ++ rest) = .ok v rest := by
  have := rInt_wInt 33 v mx rest (writeInt v mx ++ rest) hv hmx 1 (by omega)
  rwa [Nat.mod_one] at this

theorem wInt_length_le (fuel v mx : Nat) : ∀ mask nv k, mx ≤ mask * 2 ^ k → (wInt fuel v mx mask nv).length ≤ k := by
  induction fuel with
  | zero => intro mask nv k _; exact Nat.zero_le _
  | succ f ih =>
    intro mask nv k hk
    by_cases h : nv + mask < mx ∧ mask < 2 ^ 32
    · cases k with
      | zero => rw [Nat.pow_zero, Nat.mul_one] at hk; omega
      | succ k =>
        rw [wInt_step h]
        exact Nat.succ_le_succ (ih _ _ k (by rwa [mul_two_pow_succ] at hk))
    · rw [wInt_stop h]; exact Nat.zero_le _

theorem writeInt_length_le (v mx k : Nat) (hk : mx ≤ 2 ^ k) : (writeInt v mx).length ≤ k :=
  wInt_length_le 33 v mx 1 0 k (by rwa [Nat.one_mul])

/-- the loop condition of `wInt` when the maximum is `mask * 2 * n` and `r < mask` has been written so far -/
theorem pow2_room {r mask n top : Nat} (hr : r < mask) (hn : 1 ≤ n) (hle : mask * 2 * n ≤ top) : r + mask < mask * 2 * n ∧ mask < top :=
  have h : mask * 2 ≤ mask * 2 * n := Nat.le_mul_of_pos_right _ hn
  ⟨by omega, by omega⟩

/-- with a power-of-two maximum `mask * 2 ^ d` the loop never stops early: exactly `d` more bits, the low bits of `v / mask`
(this is how channel sequence (max 1024) and payload length (max 8192) are written, "wrapped") -/
theorem wInt_pow2 (v : Nat) : ∀ d fuel mask, d ≤ fuel → 0 < mask → mask * 2 ^ d ≤ 2 ^ 32 →
    wInt fuel v (mask * 2 ^ d) mask (v % mask) = natToBits (v / mask) d := by
  intro d
  induction d with
  | zero => intro fuel mask _ _ _; exact wInt_stop fun h => Nat.not_lt.2 (Nat.le_add_left _ _) (Nat.mul_one mask ▸ h.1)
  | succ d ih =>
    intro fuel mask hf hm hle
    obtain ⟨f, rfl⟩ : ∃ f, fuel = f + 1 := ⟨fuel - 1, by omega⟩
    rw [mul_two_pow_succ] at hle ⊢
    rw [wInt_step (pow2_room (Nat.mod_lt v hm) Nat.one_le_two_pow hle), ← mod_double,
      ih f (mask * 2) (Nat.le_of_succ_le_succ hf) (Nat.mul_pos hm (by decide)) hle, natToBits, Nat.div_div_eq_div_mul]

/-- the two writers are the same loop; `bitbuf_write_int_wrapped` only lacks the caller's range check -/
theorem writeIntWrapped_eq (v mx : Nat) : writeIntWrapped v mx = writeInt v mx := rfl

theorem writeIntWrapped_pow2 (k v : Nat) (hk : k ≤ 32) : writeIntWrapped v (2 ^ k) = natToBits v k := by
  have := wInt_pow2 v k 33 1 (Nat.le_succ_of_le hk) (by decide) (by rw [Nat.one_mul]; exact Nat.pow_le_pow_right (by decide) hk)
  rwa [Nat.one_mul, Nat.mod_one, Nat.div_one] at this

theorem natToBits_mod (v k : Nat) : natToBits (v % 2 ^ k) k = natToBits v k := by
  have := natToBits_bitsToNat (natToBits v k)
  rwa [bitsToNat_natToBits, natToBits_length] at this

theorem readInt_wrapped_pow2 (k v : Nat) (rest : Bits) (hk : k ≤ 32) :
    readInt (2 ^ k) (writeIntWrapped v (2 ^ k) ++ rest) = .ok (v % 2 ^ k) rest := by
  rw [writeIntWrapped_pow2 k v hk, ← natToBits_mod, ← writeIntWrapped_pow2 k _ hk, writeIntWrapped_eq]
  exact readInt_writeInt _ _ rest (Nat.mod_lt _ (Nat.two_pow_pos k)) (Nat.pow_le_pow_right (by decide) hk)

/-- one byte of the packed format: 7 value bits above the continuation bit -/
theorem rPacked_step (fuel shift acc v : Nat) (rest : Bits) :
    rPackedLoop (fuel + 1) shift acc (wPacked (fuel + 1) v ++ rest) =
      if v / 128 = 0 then .ok ((acc + v % 128 * 2 ^ shift) % 2 ^ 32) rest
      else rPackedLoop fuel (shift + 7) ((acc + v % 128 * 2 ^ shift) % 2 ^ 32) (wPacked fuel (v / 128) ++ rest) := by
  have hb : ∀ c : Bool, (if c then 1 else 0) < 2 := by decide
  rw [wPacked, rPackedLoop, List.append_assoc, readBits_append' 8 _ _ (natToBits_length _ _)]
  simp only [bitsToNat_natToBits]
  rw [Nat.mod_eq_of_lt (pack_lt _ _ 2 128 (Nat.mod_lt v (by decide)) (hb _)), pack_div _ _ 2 (hb _), pack_mod _ _ 2 (hb _)]
  by_cases hm : v / 128 = 0
  · rw [if_pos hm, hm]; rfl
  · rw [if_neg hm, show (v / 128 != 0) = true from bne_iff_ne.2 hm]; rfl

/-- `v = v % 128 + 128 * (v / 128)`, and `2 ^ (shift + 7) = 2 ^ shift * 128` -/
theorem packed_split (acc v shift : Nat) : acc + v % 128 * 2 ^ shift + v / 128 * 2 ^ (shift + 7) = acc + v * 2 ^ shift := by
  rw [Nat.pow_add, Nat.add_assoc, Nat.mul_comm (2 ^ shift), ← Nat.mul_assoc, ← Nat.add_mul, Nat.mul_comm (v / 128), Nat.mod_add_div]

theorem rPacked_wPacked (fuel : Nat) (rest : Bits) : ∀ v shift acc, v < 2 ^ (7 * (fuel + 1)) → acc + v * 2 ^ shift < 2 ^ 32 →
    rPackedLoop (fuel + 1) shift acc (wPacked (fuel + 1) v ++ rest) = .ok (acc + v * 2 ^ shift) rest := by
  induction fuel with
  | zero =>
    intro v shift acc hv hlt
    rw [rPacked_step, if_pos (Nat.div_eq_of_lt hv), Nat.mod_eq_of_lt (Nat.lt_of_lt_of_eq hv rfl), Nat.mod_eq_of_lt hlt]
  | succ f ih =>
    intro v shift acc hv hlt
    rw [← packed_split] at hlt ⊢
    rw [rPacked_step, Nat.mod_eq_of_lt (Nat.lt_of_le_of_lt (Nat.le_add_right _ _) hlt)]
    split
    · rename_i h0
      rw [h0, Nat.zero_mul, Nat.add_zero]
    · exact ih (v / 128) (shift + 7) _ (Nat.div_lt_of_lt_mul (by rw [Nat.mul_comm, show 128 = 2 ^ 7 from rfl, ← Nat.pow_add]; exact hv)) hlt

theorem readIntPacked_write (v : Nat) (rest : Bits) : readIntPacked (writeIntPacked v ++ rest) = .ok (v % 2 ^ 32) rest := by
  have hv : v % 2 ^ 32 < 2 ^ 32 := Nat.mod_lt _ (by decide)
  have := rPacked_wPacked 4 rest (v % 2 ^ 32) 0 0 (Nat.lt_trans hv (by decide)) (by rw [Nat.pow_zero, Nat.mul_one, Nat.zero_add]; exact hv)
  rwa [Nat.pow_zero, Nat.mul_one, Nat.zero_add] at this

theorem wPacked_length (fuel v : Nat) : (wPacked fuel v).length ≤ 8 * fuel ∧ (wPacked fuel v).length % 8 = 0 := by
  induction fuel generalizing v with
  | zero => exact ⟨Nat.le_refl _, rfl⟩
  | succ f ih =>
    rw [wPacked, List.length_append, natToBits_length, Nat.mul_succ, Nat.add_comm 8]
    split
    · exact ⟨Nat.add_le_add_right (ih _).1 8, by rw [Nat.add_mod_right]; exact (ih _).2⟩
    · exact ⟨Nat.le_add_left _ _, rfl⟩

end Utcp
