import Utcp.Lemmas.RecvSteps
/-!
# The reassembly list of one channel (`InPartialBunch`) under `merge_partial_data`, one fragment at a time

The shape the list always has, and what one call of `mergePartial` does to it, for an arbitrary channel state and fragment.
`Lemmas/GroupInv.lean` carries this over every history; `Props/C03.lean` restates the theorems under the property's name and says there
what each claims.
-/
namespace Utcp.Partial
open Utcp Utcp.Gen

theorem group_limit : maxGroup = 256 ∧ Gen.EXTENT_HandleBunch = Gen.MaxSequenceHistoryLength := by decide

/-- consecutive fragments match: same reliability; reliable ⇒ next channel sequence; unreliable ⇒ same or next packet -/
def Follows (a b : Bunch) : Prop :=
  a.bReliable = b.bReliable ∧ (if b.bReliable then b.chSeq = a.chSeq + 1 else (b.chSeq = a.chSeq + 1 ∨ b.chSeq = a.chSeq))

/-- shape of a reassembly list: non-empty lists start with an initial fragment, nothing after the first is initial,
nothing before the last is final, every element is partial, neighbours follow each other -/
def Shape : List Bunch → Prop
  | [] => True
  | b :: rest => b.bPartial = true ∧ b.bPartialInitial = true ∧ Tail b rest
where
  Tail : Bunch → List Bunch → Prop
    | _, [] => True
    | prev, b :: rest => prev.bPartialFinal = false ∧ b.bPartial = true ∧ b.bPartialInitial = false ∧ Follows prev b ∧ Tail b rest

theorem tail_append (l : List Bunch) : ∀ (p last b : Bunch), Shape.Tail p l → (p :: l).getLast? = some last →
    last.bPartialFinal = false → Follows last b → b.bPartial = true → b.bPartialInitial = false → Shape.Tail p (l ++ [b]) := by
  induction l with
  | nil =>
    intro p last b _ hl hnf hf hb hbi
    cases hl
    exact ⟨hnf, hb, hbi, hf, trivial⟩
  | cons x xs ih =>
    intro p last b h hl hnf hf hb hbi
    rw [List.getLast?_cons_cons] at hl
    exact ⟨h.1, h.2.1, h.2.2.1, h.2.2.2.1, ih x last b h.2.2.2.2 hl hnf hf hb hbi⟩

theorem follows_of_canMerge (last b : Bunch) (h : canMerge last b = true) : last.bPartialFinal = false ∧ Follows last b := by
  unfold canMerge seqMatches at h
  simp only [Bool.and_eq_true, Bool.not_eq_true', beq_iff_eq] at h
  obtain ⟨⟨hnf, hseq⟩, hrel⟩ := h
  refine ⟨hnf, hrel, ?_⟩
  by_cases hr : b.bReliable = true
  · simp only [hr, if_true] at hseq ⊢; simpa using hseq
  · simp only [hr, Bool.false_eq_true, if_false] at hseq ⊢
    simpa using hseq

theorem shape_append (l : List Bunch) (last b : Bunch) (hs : Shape l) (hl : l.getLast? = some last) (hc : canMerge last b = true)
    (hb : b.bPartial = true) (hi : b.bPartialInitial = false) : Shape (l ++ [b]) := by
  obtain ⟨hnf, hfol⟩ := follows_of_canMerge last b hc
  cases l with
  | nil => cases hl
  | cons p rest => exact ⟨hs.1, hs.2.1, tail_append rest p last b hs.2.2 hl hnf hfol hb hi⟩

theorem merge_shape (c : Conn) (x : Channel) (b : Bunch) (hb : b.bPartial = true) (hs : Shape x.inPartial) :
    Shape (mergePartial c x b).2.1.inPartial := by
  rcases mergePartial_cases c x b with ⟨hi, h⟩ | ⟨hi, last, hl, hm, h⟩ | h | ⟨_, _, _, h⟩ <;> rw [h]
  · exact ⟨hb, hi, trivial⟩
  · exact shape_append _ last b hs hl hm hb hi
  · trivial
  · exact hs

theorem available_iff (c : Conn) (x : Channel) (b : Bunch) (h : (mergePartial c x b).2.2.1 = .available) :
      b.bPartialInitial = false ∧ b.bPartialFinal = true ∧ (mergePartial c x b).2.1.inPartial = x.inPartial ++ [b] ∧ x.inPartial ≠ [] := by
  rcases mergePartial_cases c x b with ⟨_, h'⟩ | ⟨hi, last, hl, _, h'⟩ | h' | ⟨_, _, hres, h'⟩ <;> rw [h'] at h ⊢
  · cases h
  · refine ⟨hi, ?_, rfl, fun he => by simp [he] at hl⟩
    cases hf : b.bPartialFinal with
    | true => rfl
    | false => simp [hf] at h
  · cases h
  · rcases hres with rfl | rfl <;> cases h

theorem refused_no_growth (c : Conn) (x : Channel) (b : Bunch) (h : (mergePartial c x b).2.2.1 = .failed ∨ (mergePartial c x b).2.2.1 = .fatal) :
    (mergePartial c x b).2.1.inPartial = x.inPartial ∨ (mergePartial c x b).2.1.inPartial = [] := by
  rcases mergePartial_cases c x b with ⟨_, h'⟩ | ⟨_, _, _, _, h'⟩ | h' | ⟨_, _, _, h'⟩ <;> rw [h'] at h ⊢
  · rcases h with h | h <;> cases h
  · cases hf : b.bPartialFinal <;> simp [hf] at h
  · exact .inr rfl
  · exact .inl rfl

theorem merged_follows (c : Conn) (x : Channel) (b : Bunch) (last : Bunch) (hl : x.inPartial.getLast? = some last)
    (hi : b.bPartialInitial = false) (hm : (mergePartial c x b).2.1.inPartial = x.inPartial ++ [b]) : Follows last b := by
  rcases mergePartial_cases c x b with ⟨hi', _⟩ | ⟨_, last', hl', hc, _⟩ | h' | ⟨_, _, _, h'⟩
  · rw [hi] at hi'; cases hi'
  · rw [hl] at hl'; cases hl'; exact (follows_of_canMerge last b hc).2
  · rw [h'] at hm; simp at hm
  · rw [h'] at hm; simp at hm

/-- of a non-empty list with the shape, the first fragment is initial and every fragment is partial (what else a group is, `Shape` says itself) -/
theorem group_of_shape (g : List Bunch) (hs : Shape g) (hne : g ≠ []) (hfin : (g.getLast?.map (·.bPartialFinal)) = some true) :
    (g.head?.map (·.bPartialInitial)) = some true ∧ (∀ b ∈ g, b.bPartial = true) := by
  cases g with
  | nil => exact absurd rfl hne
  | cons p rest =>
    simp only [Shape] at hs
    refine ⟨by simp [hs.2.1], ?_⟩
    have : ∀ (q : Bunch) (l : List Bunch), Shape.Tail q l → ∀ b ∈ l, b.bPartial = true := by
      intro q l
      induction l generalizing q with
      | nil => intro _ b hb; simp at hb
      | cons y ys ih =>
        intro ht b hb
        simp only [Shape.Tail] at ht
        rcases List.mem_cons.mp hb with rfl | hb
        · exact ht.2.1
        · exact ih y ht.2.2.2.2 b hb
    intro b hb
    rcases List.mem_cons.mp hb with rfl | hb
    · exact hs.1
    · exact this p rest hs.2.2 b hb

/-! non-vacuity -/
example : Shape [{ bPartial := true, bPartialInitial := true, bReliable := true, chSeq := 7 },
                 { bPartial := true, bReliable := true, chSeq := 8 }] := by
  simp [Shape, Shape.Tail, Follows]

end Utcp.Partial
