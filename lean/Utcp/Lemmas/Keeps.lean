import Utcp.Lemmas.Log
/-! What the *sending* machinery (flush, header placeholder, retransmission, release on ack) never touches. -/
namespace Utcp
open Gen

structure Keeps (c c' : Conn) : Prop where
  lastNotified : c'.lastNotified = c.lastNotified
  inPacketId : c'.inPacketId = c.inPacketId
  outAckPacketId : c'.outAckPacketId = c.outAckPacketId
  outAckSeq : c'.notify.outAckSeq = c.notify.outAckSeq
  inSeq : c'.notify.inSeq = c.notify.inSeq
  inAckSeq : c'.notify.inAckSeq = c.notify.inAckSeq
  inAckSeqAck : c'.notify.inAckSeqAck = c.notify.inAckSeqAck
  hist : c'.notify.hist = c.notify.hist
  bClose : c'.bClose = c.bClose
  closeReason : c'.closeReason = c.closeReason
  connected : c'.connected = c.connected
  initIn : c'.initInReliable = c.initInReliable
  initOut : c'.initOutReliable = c.initOutReliable
  lastRecvMs : c'.lastRecvMs = c.lastRecvMs
  session : c'.lastSessionId = c.lastSessionId ∧ c'.lastClientId = c.lastClientId
  outPacketId_le : c.outPacketId ≤ c'.outPacketId

theorem Keeps.refl (c : Conn) : Keeps c c :=
  ⟨rfl, rfl, rfl, rfl, rfl, rfl, rfl, rfl, rfl, rfl, rfl, rfl, rfl, rfl, ⟨rfl, rfl⟩, Int.le_refl _⟩

theorem Keeps.trans {a b c : Conn} (h1 : Keeps a b) (h2 : Keeps b c) : Keeps a c where
  lastNotified := h2.lastNotified.trans h1.lastNotified
  inPacketId := h2.inPacketId.trans h1.inPacketId
  outAckPacketId := h2.outAckPacketId.trans h1.outAckPacketId
  outAckSeq := h2.outAckSeq.trans h1.outAckSeq
  inSeq := h2.inSeq.trans h1.inSeq
  inAckSeq := h2.inAckSeq.trans h1.inAckSeq
  inAckSeqAck := h2.inAckSeqAck.trans h1.inAckSeqAck
  hist := h2.hist.trans h1.hist
  bClose := h2.bClose.trans h1.bClose
  closeReason := h2.closeReason.trans h1.closeReason
  connected := h2.connected.trans h1.connected
  initIn := h2.initIn.trans h1.initIn
  initOut := h2.initOut.trans h1.initOut
  lastRecvMs := h2.lastRecvMs.trans h1.lastRecvMs
  session := ⟨h2.session.1.trans h1.session.1, h2.session.2.trans h1.session.2⟩
  outPacketId_le := Int.le_trans h1.outPacketId_le h2.outPacketId_le

theorem Keeps.of_fields {c c' : Conn} (h1 : c'.lastNotified = c.lastNotified) (h2 : c'.inPacketId = c.inPacketId) (h3 : c'.outAckPacketId = c.outAckPacketId)
    (h4 : c'.notify = c.notify) (h5 : c'.bClose = c.bClose) (h6 : c'.closeReason = c.closeReason) (h7 : c'.connected = c.connected)
    (h8 : c'.initInReliable = c.initInReliable) (h9 : c'.initOutReliable = c.initOutReliable) (h10 : c'.lastRecvMs = c.lastRecvMs)
    (h11 : c'.lastSessionId = c.lastSessionId) (h12 : c'.lastClientId = c.lastClientId) (h13 : c'.outPacketId = c.outPacketId) : Keeps c c' :=
  ⟨h1, h2, h3, by rw [h4], by rw [h4], by rw [h4], by rw [h4], by rw [h4], h5, h6, h7, h8, h9, h10, ⟨h11, h12⟩, by rw [h13]; exact Int.le_refl _⟩

theorem flushNow_keeps (e : Env) (c : Conn) : Keeps c (c.flushNow e) := by
  obtain ⟨r, w, hn⟩ := flushNow_notify e c
  exact ⟨rfl, rfl, rfl, by rw [hn], by rw [hn], by rw [hn], by rw [hn], by rw [hn], rfl, rfl, rfl, rfl, rfl, rfl, ⟨rfl, rfl⟩,
    Int.le_add_of_nonneg_right (by decide)⟩

theorem setChan_keeps (c : Conn) (ch : Nat) (x : Channel) : Keeps c (c.setChan ch x) :=
  Keeps.of_fields rfl rfl rfl rfl rfl rfl rfl rfl rfl rfl rfl rfl rfl

theorem keeps_sclosed (e : Env) : SClosed e Keeps where
  refl := Keeps.refl
  trans := Keeps.trans
  startPacket _ := by
    unfold Conn.startPacket Notify.fillFresh
    exact ⟨rfl, rfl, rfl, rfl, rfl, rfl, rfl, rfl, rfl, rfl, rfl, rfl, rfl, rfl, ⟨rfl, rfl⟩, Int.le_refl _⟩
  flushNow c _ := flushNow_keeps e c
  append _ _ := Keeps.of_fields rfl rfl rfl rfl rfl rfl rfl rfl rfl rfl rfl rfl rfl
  setOut c ch _ _ _ := setChan_keeps c ch _

theorem onNakChans_keeps (e : Env) (pid : Int) (chs : List Nat) (c : Conn) : Keeps c (c.onNakChans e pid chs) := (keeps_sclosed e).onNakChans pid chs c

theorem onAckChans_keeps (pid : Int) (chs : List Nat) (c : Conn) : Keeps c (c.onAckChans pid chs) :=
  onAckChans_closed Keeps.refl Keeps.trans (fun c ch _ _ _ => setChan_keeps c ch _) (fun _ => Keeps.of_fields rfl rfl rfl rfl rfl rfl rfl rfl rfl rfl rfl rfl rfl) pid chs c

/-- `HandlePacketNotification`, with the id it reports written out: the next one after the last reported -/
theorem handleNotification_eq (e : Env) (c : Conn) (v : Int × Bool) : c.handleNotification e v =
    if (c.lastNotified + 1) % 16384 != v.1 then { c with lastNotified := c.lastNotified + 1 }
    else if v.2 then
      (({ c with lastNotified := c.lastNotified + 1, outAckPacketId := c.lastNotified + 1 } : Conn).onAckChans (c.lastNotified + 1) (c.chans.map (·.1))).emit
        (.status (c.lastNotified + 1) true)
    else (({ c with lastNotified := c.lastNotified + 1 } : Conn).onNakChans e (c.lastNotified + 1) (c.chans.map (·.1))).emit (.status (c.lastNotified + 1) false) := by
  unfold Conn.handleNotification
  dsimp only
  rw [seq_num_init_mod, (onAckChans_keeps _ _ _).lastNotified, (onNakChans_keeps e _ _ _).lastNotified]

end Utcp
