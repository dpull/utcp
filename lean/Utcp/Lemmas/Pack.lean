import Utcp.Lemmas.BitIO
import Utcp.Conn
/-! The packet header: three fields packed into disjoint ranges of a 32-bit word (`pack_*` of `Lemmas/BitIO`), history words, the parser's outcomes. -/
namespace Utcp

/-- the 32-bit header word: `seq` in bits 18.., `ackedSeq` in bits 4..17, word count − 1 in bits 0..3 -/
def hdrWord (s a w : Nat) : Nat := (s * 16384 + a) * 16 + w

theorem hdrWord_eq (s a w : Nat) : hdrWord s a w = s * 2 ^ 18 + a * 16 + w := by
  unfold hdrWord; rw [Nat.add_mul, Nat.mul_assoc]

theorem hdrWord_fields {s a w : Nat} (ha : a < 16384) (hw : w < 16) :
    hdrWord s a w / 2 ^ 18 = s ∧ hdrWord s a w / 16 % 16384 = a ∧ hdrWord s a w % 16 = w := by
  have h16 : hdrWord s a w / 16 = s * 16384 + a := pack_div _ _ 16 hw
  refine ⟨?_, by rw [h16, pack_mod _ _ _ ha], pack_mod _ _ 16 hw⟩
  rw [show 2 ^ 18 = 16 * 16384 from rfl, ← Nat.div_div_eq_div_mul, h16, pack_div _ _ _ ha]

theorem hdrWord_lt {s a w : Nat} (hs : s < 16384) (ha : a < 16384) (hw : w < 16) : hdrWord s a w < 4294967296 :=
  pack_lt _ _ 16 268435456 (pack_lt s a 16384 16384 hs ha) hw

theorem encodeNotifHeader_eq (h : NotifHeader) : encodeNotifHeader h =
    writeU32 (hdrWord (h.seq.toNat % 16384) (h.ackedSeq.toNat % 16384) ((h.words - 1) % 16)) ++ h.hist ++ [false] := by
  rw [hdrWord_eq, encodeNotifHeader]

/-- `packet_header_read` after `packet_header_write`, for any 32-bit word and any history of the length the word announces -/
theorem decodePacketHeader_write (p : Nat) (hist rest : Bits) (hp : p < 4294967296)
    (hl : hist.length = 32 * min histWordsMax (p % 16 + 1)) :
    decodePacketHeader (writeU32 p ++ hist ++ [false] ++ rest) =
      .ok ({ seq := ((p / 2 ^ 18 % 16384 : Nat) : Int), ackedSeq := ((p / 16 % 16384 : Nat) : Int),
             words := min histWordsMax (p % 16 + 1), hist := hist }, rest) := by
  rw [decodePacketHeader, List.append_assoc, List.append_assoc, readU32_write, Nat.mod_eq_of_lt hp]
  simp only
  rw [readBits_append' _ _ _ hl]
  rfl

/-- every outcome of `packet_header_read`: one of the two header close reasons, or a header whose sequence numbers and word count are the
three fields of the first word `p`, with as many history bits as that count announces (hence `0 ≤ seq, ackedSeq < 16384`, `1 ≤ words ≤ 8`) -/
theorem decodePacketHeader_cases {bits : Bits} {x : Except Nat (NotifHeader × Bits)} (hx : decodePacketHeader bits = x) :
    match x with
    | .error r => r = crReadHeaderFail ∨ r = crReadHeaderExtraFail
    | .ok (hd, _) => ∃ p, hd.seq = ((p / 2 ^ 18 % 16384 : Nat) : Int) ∧ hd.ackedSeq = ((p / 16 % 16384 : Nat) : Int) ∧
        hd.words = min histWordsMax (p % 16 + 1) ∧ hd.hist.length = 32 * hd.words := by
  -- the walk is through `hx`, not through the goal, so that `split` takes the parser apart and not the claim
  unfold decodePacketHeader at hx
  split at hx
  · subst hx; exact .inl rfl
  · dsimp only at hx
    split at hx
    · subst hx; exact .inl rfl
    · rename_i hh
      have hl := (readBits_eq_ok hh).1
      split at hx
      · subst hx; exact .inr rfl
      · rename_i info _ _
        by_cases hi : (!info) = true
        · rw [if_pos hi] at hx
          subst hx; exact ⟨_, rfl, rfl, rfl, hl⟩
        · rw [if_neg hi] at hx
          split at hx
          · subst hx; exact .inr rfl
          · split at hx
            · subst hx; exact .inr rfl
            · rename_i ft _ _
              by_cases hf : (!ft) = true
              · rw [if_pos hf] at hx
                subst hx; exact ⟨_, rfl, rfl, rfl, hl⟩
              · rw [if_neg hf] at hx
                split at hx
                · subst hx; exact .inr rfl
                · subst hx; exact ⟨_, rfl, rfl, rfl, hl⟩

end Utcp
