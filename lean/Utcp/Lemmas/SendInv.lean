import Utcp.Lemmas.Size
import Utcp.Lemmas.Keeps
import Utcp.Lemmas.SendSide
import Utcp.Props.C11
/-!
# The send-buffer invariant

`SInv e c`: the send buffer of a connected endpoint never holds more than 8191 bits, the header placeholder has the
size of the history words reserved for it, and every retransmission record fits into an empty packet.  It is
established by `utcp_sequence_init` on a fresh connection and preserved by every operation of the data path
(`Props/C18.lean` states that); every datagram emitted on the way has at most 1025 bytes.
-/
namespace Utcp
open Gen Size

/-- the instance used here: the record fits into an empty packet -/
abbrev SizeN : OutNode → Prop := fun n => n.bits.length ≤ 7844
abbrev ChanOK (x : Channel) : Prop := ChanOKP SizeN x
abbrev AllOK (c : Conn) : Prop := AllOKP SizeN c

/-- a datagram of the data path has at most `UTCP_MAX_PACKET + 1` bytes -/
def SizeOK (ev : Event) : Prop := ∀ bytes, ev = .out bytes → bytes.length ≤ 1025

structure SInv (e : Env) (c : Conn) : Prop where
  magic : e.magicBits ≤ 32
  hist : c.notify.hist.length = 256
  words : c.notify.writtenWords ≤ 8
  notif : c.sendActive = true → c.sendNotif.length = 33 + 32 * c.notify.writtenWords
  room : c.sendActive = true → c.sendBitsNum e ≤ 8191
  conn : c.connected = true
  chans : AllOK c
  /-- the two sequence numbers a packet header carries are 14-bit values -/
  seqs : (0 ≤ c.notify.outSeq ∧ c.notify.outSeq < 16384) ∧ (0 ≤ c.notify.inAckSeq ∧ c.notify.inAckSeq < 16384)
  /-- the header placeholder is the encoding of a well-formed header -/
  notifEnc : c.sendActive = true → ∃ h, Props.C11.WFHeader h ∧ c.sendNotif = encodeNotifHeader h

theorem SInv.env {e e' : Env} {c : Conn} (h : SInv e c) (hm : e'.magicBits = e.magicBits) : SInv e' c := by
  refine ⟨by rw [hm]; exact h.magic, h.hist, h.words, h.notif, ?_, h.conn, h.chans, h.seqs, h.notifEnc⟩
  intro ha
  have := h.room ha
  unfold Conn.sendBitsNum Env.outHdrLen at *
  rw [hm]; exact this

theorem AllOK.of_chans {c c' : Conn} (h : AllOK c) (hc : c'.chans = c.chans) : AllOK c' := AllOKP.of_chans h hc

theorem freeBits_active (e : Env) (c : Conn) (ha : c.sendActive = true) (hr : c.sendBitsNum e ≤ 8191) :
    c.freeBits e = 8191 - (c.sendBitsNum e : Int) := by
  have hpos : 0 < c.sendBitsNum e := by
    unfold Conn.sendBitsNum Env.outHdrLen; simp only [ha, if_true]; omega
  unfold Conn.freeBits GetFreeSendBufferBits
  simp only
  have : decide (((c.sendBitsNum e : Nat) : Int) > 0) = true := by simp; omega
  rw [this]
  simp only [if_true]
  omega

theorem freeBits_inactive (e : Env) (c : Conn) (ha : c.sendActive = false) : c.freeBits e = 7883 := by
  unfold Conn.freeBits GetFreeSendBufferBits Conn.sendBitsNum
  simp [ha]

theorem writeBits_idle (e : Env) (c : Conn) (bits : Bits) (hidle : c.sendActive = false) (hm : e.magicBits ≤ 32) (hh : c.notify.hist.length = 256)
    (hb : bits.length ≤ 7844) : c.writeBits e bits = ({ c.startPacket with sendBody := bits }, c.outPacketId) := by
  have hprep : c.prepareWrite e bits.length = c.startPacket := by
    have hle : ¬ decide (((bits.length : Nat) : Int) > 7883) = true := by simp only [decide_eq_true_eq]; omega
    unfold Conn.prepareWrite
    rw [freeBits_inactive e c hidle, if_neg hle, if_pos (by simp [hidle])]
  obtain ⟨h1, h2, _⟩ := startPacket_header_length c hh
  -- the packet is not full afterwards: no flush
  have hnum : ({ c.startPacket with sendBody := c.startPacket.sendBody ++ bits } : Conn).sendBitsNum e ≤ 8171 := by
    unfold Conn.sendBitsNum Env.outHdrLen
    have : ({ c.startPacket with sendBody := c.startPacket.sendBody ++ bits } : Conn).sendActive = true := rfl
    rw [if_pos this]
    dsimp only
    rw [h1, startPacket_sendBody, List.nil_append]; omega
  have hfree : ∀ c1 : Conn, c1.sendActive = true → c1.sendBitsNum e ≤ 8171 → ¬ (c1.freeBits e == 0) = true := by
    intro c1 ha hn; rw [freeBits_active e c1 ha (by omega)]; simp only [beq_iff_eq]; omega
  unfold Conn.writeBits
  rw [hprep]
  unfold Conn.writeInternal
  dsimp only
  rw [if_neg (hfree _ rfl hnum)]
  rfl

theorem SInv.of_fields {e : Env} {c c' : Conn} (h : SInv e c) (h1 : c'.notify = c.notify) (h2 : c'.sendActive = c.sendActive) (h3 : c'.sendNotif = c.sendNotif)
    (h4 : c'.sendBody = c.sendBody) (h5 : c'.connected = c.connected) (h6 : AllOK c') : SInv e c' := by
  refine ⟨h.magic, by rw [h1]; exact h.hist, by rw [h1]; exact h.words, ?_, ?_, by rw [h5]; exact h.conn, h6, by rw [h1]; exact h.seqs,
    fun ha => by rw [h3]; exact h.notifEnc (by rw [← h2]; exact ha)⟩
  · intro ha; rw [h3, h1]; exact h.notif (by rw [← h2]; exact ha)
  · intro ha
    have := h.room (by rw [← h2]; exact ha)
    unfold Conn.sendBitsNum at *
    rw [h2, h3, h4]; exact this

/-- the header a fresh packet starts with is well-formed -/
theorem headerWith_curWords_wf (n : Notify) (hh : n.hist.length = 256)
    (hs : (0 ≤ n.outSeq ∧ n.outSeq < 16384) ∧ (0 ≤ n.inAckSeq ∧ n.inAckSeq < 16384)) : Props.C11.WFHeader (n.headerWith n.curWords) :=
  ⟨hs.1, hs.2, curWords_range n, headerWith_hist_length _ _ hh (curWords_range n).2⟩

theorem startPacket_sinv (e : Env) (c : Conn) (h : SInv e c) :
    SInv e c.startPacket ∧ c.startPacket.sendActive = true ∧ c.startPacket.sendBitsNum e ≤ 327 := by
  obtain ⟨h1, h2, h4⟩ := startPacket_header_length c h.hist
  have hm := h.magic
  have hsz : c.startPacket.sendBitsNum e ≤ 327 := by
    unfold Conn.sendBitsNum Env.outHdrLen
    have : c.startPacket.sendActive = true := rfl
    simp only [this, if_true, startPacket_sendBody, List.length_nil]
    rw [h1]; omega
  refine ⟨⟨hm, h4, h2, fun _ => h1, fun _ => by omega, h.conn, h.chans, h.seqs,
    fun _ => ⟨_, headerWith_curWords_wf c.notify h.hist h.seqs, rfl⟩⟩, rfl, hsz⟩

theorem flushNow_sinv (e : Env) (c : Conn) (h : SInv e c) (ha : c.sendActive = true) :
    SInv e (c.flushNow e) ∧ Adds SizeOK c (c.flushNow e) := by
  constructor
  · obtain ⟨r, w, hn⟩ := flushNow_notify e c
    have hf : ¬ (c.flushNow e).sendActive = true := by simp
    refine ⟨h.magic, ?_, ?_, fun hx => absurd hx hf, fun hx => absurd hx hf, h.conn, h.chans, ?_, fun hx => absurd hx hf⟩ <;> rw [hn]
    · exact h.hist
    · exact Nat.zero_le _
    · exact ⟨seq_num_inc_range _ _, h.seqs.2⟩
  · refine ⟨[.out (bitsToBytes (c.packetBits e))], rfl, ?_⟩
    intro ev hev
    simp only [List.mem_singleton] at hev
    subst hev
    intro bytes hb
    cases hb
    exact flush_size e c ha h.hist h.words (h.notif ha) (h.room ha)

theorem flush_sinv (e : Env) (c : Conn) : Pres (SInv e) SizeOK c (c.flush e) :=
  flush_closed Pres.refl Pres.trans (fun c h => ⟨(startPacket_sinv e c h).1, startPacket_adds SizeOK c⟩) (fun c ha h => flushNow_sinv e c h ha) c

theorem flush_inactive (e : Env) (c : Conn) (hc : c.connected = true) (ha : c.sendActive = true) : (c.flush e).sendActive = false := by
  rw [flush_of_active e c ha hc]; rfl

theorem prepareWrite_sinv (e : Env) (c : Conn) (total : Nat) (h : SInv e c) (ht : total ≤ 7844) :
    SInv e (c.prepareWrite e total) ∧ Adds SizeOK c (c.prepareWrite e total) ∧ (c.prepareWrite e total).sendActive = true ∧
    (total : Int) ≤ (c.prepareWrite e total).freeBits e := by
  -- a packet just started has room for any single bunch
  have hstart : ∀ c1, SInv e c1 → SInv e c1.startPacket ∧ c1.startPacket.sendActive = true ∧ (total : Int) ≤ c1.startPacket.freeBits e := by
    intro c1 h1
    obtain ⟨s1, s2, s3⟩ := startPacket_sinv e c1 h1
    exact ⟨s1, s2, by rw [freeBits_active e _ s2 (by omega)]; omega⟩
  unfold Conn.prepareWrite
  dsimp only
  by_cases hbig : decide ((total : Int) > c.freeBits e) = true
  · -- the buffer must have been active (an empty one always has room), so the flush empties it
    have ha : c.sendActive = true := by
      cases hsa : c.sendActive with
      | true => rfl
      | false => rw [freeBits_inactive e c hsa] at hbig; simp at hbig; omega
    obtain ⟨f1, f2⟩ := flush_sinv e c h
    simp only [hbig, if_true, flush_inactive e c h.conn ha, Bool.not_false]
    obtain ⟨s1, s2, s3⟩ := hstart _ f1
    exact ⟨s1, f2.trans (startPacket_adds SizeOK _), s2, s3⟩
  · simp only [hbig, Bool.false_eq_true, if_false]
    cases ha : c.sendActive with
    | true => exact ⟨h, Adds.refl _ _, ha, by simpa using hbig⟩
    | false =>
      obtain ⟨s1, s2, s3⟩ := hstart _ h
      exact ⟨s1, startPacket_adds SizeOK _, s2, s3⟩

theorem writeInternal_sinv (e : Env) (c : Conn) (bits : Bits) (h : SInv e c) (ha : c.sendActive = true) (hfit : (bits.length : Int) ≤ c.freeBits e) :
    SInv e (c.writeInternal e bits).1 ∧ Adds SizeOK c (c.writeInternal e bits).1 := by
  unfold Conn.writeInternal
  dsimp only
  have hroom := h.room ha
  rw [freeBits_active e c ha hroom] at hfit
  have h1 : SInv e { c with sendBody := c.sendBody ++ bits } := by
    refine ⟨h.magic, h.hist, h.words, h.notif, ?_, h.conn, h.chans, h.seqs, h.notifEnc⟩
    intro _
    unfold Conn.sendBitsNum at hroom hfit ⊢
    simp only [ha, if_true, List.length_append] at hroom hfit ⊢
    omega
  have ha1 : Adds SizeOK c { c with sendBody := c.sendBody ++ bits } := Adds.of_log_eq rfl
  split
  · obtain ⟨f1, f2⟩ := flush_sinv e _ h1
    exact ⟨f1, ha1.trans f2⟩
  · exact ⟨h1, ha1⟩

theorem writeBits_sinv (e : Env) (c : Conn) (bits : Bits) (h : SInv e c) (hb : bits.length ≤ 7844) :
    SInv e (c.writeBits e bits).1 ∧ Adds SizeOK c (c.writeBits e bits).1 := by
  unfold Conn.writeBits
  obtain ⟨p1, p2, p3, p4⟩ := prepareWrite_sinv e c bits.length h hb
  obtain ⟨w1, w2⟩ := writeInternal_sinv e _ bits p1 p3 p4
  exact ⟨w1, p2.trans w2⟩

theorem SInv.notify {e : Env} {c : Conn} (h : SInv e c) (n : Notify) (h1 : n.hist.length = 256) (h2 : n.writtenWords = c.notify.writtenWords)
    (h3 : n.outSeq = c.notify.outSeq) (h4 : 0 ≤ n.inAckSeq ∧ n.inAckSeq < 16384) : SInv e { c with notify := n } :=
  ⟨h.magic, h1, by show n.writtenWords ≤ 8; rw [h2]; exact h.words, fun ha => by show c.sendNotif.length = 33 + 32 * n.writtenWords; rw [h2]; exact h.notif ha,
    h.room, h.conn, h.chans, ⟨by show 0 ≤ n.outSeq ∧ n.outSeq < 16384; rw [h3]; exact h.seqs.1, h4⟩, h.notifEnc⟩

theorem sizeOK_of_not_out (ev : Event) (h : ∀ b, ev ≠ .out b) : SizeOK ev := fun b hb => absurd hb (h b)

theorem sinv_side (e : Env) : SendSide e (·.length ≤ 7844) (·.length ≤ 7844) (SInv e) SizeOK where
  flush c := flush_sinv e c
  writeBits c bits hb h := writeBits_sinv e c bits h hb
  recs _ h := h.chans
  resend _ h := h
  frame _ _ h h1 h2 h3 h4 h5 h6 := h.of_fields h1 h2 h3 h4 h5 h6
  notify _ n h h2 h3 hl hi := h.notify n (hl h.hist) h2 h3 (hi h.seqs.2)
  noOut := sizeOK_of_not_out

theorem writeSeq_length (rel : Bool) (s : Int) : (writeSeq rel s).length = if rel then 10 else 0 := by
  unfold writeSeq
  split
  · rw [maxChSequence_eq, writeIntWrapped_pow2 10 _ (by decide)]; simp
  · rfl

theorem encodeBunchHeader_length_seq (b : Bunch) (s : Int) (h0 h : Bits) (e0 : encodeBunchHeader { b with chSeq := 0 } = some h0)
    (e1 : encodeBunchHeader { b with chSeq := s } = some h) : h.length = h0.length := by
  rw [((encodeBunchHeader_eq_some_iff _ _).1 e0).2, ((encodeBunchHeader_eq_some_iff _ _).1 e1).2]
  simp only [hdrBits, List.length_append, writeSeq_length]

theorem getD_header_length (b : Bunch) (s : Int) (h0 : Bits) (henc : encodeBunchHeader { b with chSeq := 0 } = some h0) :
    ((encodeBunchHeader { b with chSeq := s }).getD h0).length = h0.length := by
  cases he : encodeBunchHeader { b with chSeq := s } with
  | none => rfl
  | some hh => simp only [Option.getD_some]; exact encodeBunchHeader_length_seq b _ h0 hh henc he

theorem sendBunch_sinv (e : Env) (c : Conn) (b : Bunch) (h : SInv e c) :
    SInv e (c.sendBunch e b).1 ∧ Adds SizeOK c (c.sendBunch e b).1 := by
  refine (sinv_side e).sendBunch c b ?_ h
  intro h0 x hchk _
  obtain ⟨_, _, henc, hfit⟩ := sendCheck_cases hchk
  exact ⟨fun _ => by simp only [List.length_append, getD_header_length b _ h0 henc]; exact hfit, fun _ => by simpa using hfit⟩

theorem seqInit_sinv (e : Env) (c : Conn) (i o : Int) (hm : e.magicBits ≤ 32) (ha : c.sendActive = false) (hw : c.notify.writtenWords ≤ 8)
    (hc : c.connected = true) (hch : AllOK c) : SInv e (c.seqInit i o) := by
  have hidle : ¬ (c.seqInit i o).sendActive = true := by show ¬ c.sendActive = true; simp [ha]
  exact ⟨hm, (seqInit_header c i o).1, hw, fun hx => absurd hx hidle, fun hx => absurd hx hidle, hc, hch.of_chans rfl, (seqInit_header c i o).2,
    fun hx => absurd hx hidle⟩

theorem markClosed_ok (x : Channel) (r : Nat) (h : ChanOK x) : ChanOK (x.markClosed r) := by
  intro n hn; rw [markClosed_outRec] at hn; exact h n hn

end Utcp
