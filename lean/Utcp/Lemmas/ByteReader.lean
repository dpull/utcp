import Utcp.Props.C12_Read
/-! Byte-level readers as a monad (`LRd`) and the refinement relation to the bit-level readers of `Utcp/BitIO.lean`: whatever is composed from the
primitives with `bind`, `pure`, `if` refines the bit-level reader composed the same way - and never touches a byte outside the arrays. -/
namespace Utcp.BB
open Utcp

/-- a byte-level reader: `none` = a byte outside an array was touched; otherwise the value (`none` = the C function returned false) and the buffer afterwards -/
def LRd (α : Type) := Buf → Option (Option α × Buf)

def LRd.pure {α} (a : α) : LRd α := fun b => some (some a, b)
def LRd.failHere {α} : LRd α := fun b => some (none, b)
def LRd.bind {α β} (m : LRd α) (f : α → LRd β) : LRd β := fun b =>
  match m b with
  | none => none
  | some (none, b') => some (none, b')
  | some (some a, b') => f a b'

/-- the byte-level reader does, on the remaining bits, what the bit-level reader does: same value or failure, same remainder; it stays inside the arrays
and leaves array and size alone -/
def Refines {α} (l : LRd α) (s : Rd α) : Prop :=
  ∀ b, RB b → ∃ r b', l b = some (r, b') ∧ RB b' ∧ b'.mem = b.mem ∧ b'.size = b.size ∧
    s (rest b) = (match r with | some v => RR.ok v (rest b') | none => RR.fail (rest b'))

theorem Refines.pure {α} (a : α) : Refines (LRd.pure a) (Pure.pure a : Rd α) :=
  fun b hb => ⟨some a, b, rfl, hb, rfl, rfl, rfl⟩

theorem Refines.failHere {α} : Refines (LRd.failHere : LRd α) (Rd.failHere : Rd α) :=
  fun b hb => ⟨none, b, rfl, hb, rfl, rfl, rfl⟩

/-- sequencing, where the continuation need only refine on the values the first reader can return -/
theorem Refines.bind' {α β} {l : LRd α} {s : Rd α} {lf : α → LRd β} {sf : α → Rd β} (P : α → Prop) (h : Refines l s)
    (hP : ∀ bs v r, s bs = .ok v r → P v) (hf : ∀ a, P a → Refines (lf a) (sf a)) : Refines (l.bind lf) (s >>= sf) := by
  intro b hb
  obtain ⟨r, b1, h1, hrb1, hm1, hs1, hS1⟩ := h b hb
  cases r with
  | none =>
    refine ⟨none, b1, by simp [LRd.bind, h1], hrb1, hm1, hs1, ?_⟩
    rw [Rd.bind_apply, hS1]
  | some a =>
    obtain ⟨r2, b2, h2, hrb2, hm2, hs2, hS2⟩ := hf a (hP _ _ _ hS1) b1 hrb1
    refine ⟨r2, b2, by simp [LRd.bind, h1, h2], hrb2, hm2.trans hm1, hs2.trans hs1, ?_⟩
    rw [Rd.bind_apply, hS1]
    exact hS2

theorem Refines.bind {α β} {l : LRd α} {s : Rd α} {lf : α → LRd β} {sf : α → Rd β} (h : Refines l s) (hf : ∀ a, Refines (lf a) (sf a)) :
    Refines (l.bind lf) (s >>= sf) :=
  Refines.bind' (fun _ => True) h (fun _ _ _ _ => trivial) fun a _ => hf a

theorem Refines.ite {α} (c : Bool) {l1 l2 : LRd α} {s1 s2 : Rd α} (h1 : Refines l1 s1) (h2 : Refines l2 s2) :
    Refines (if c then l1 else l2) (if c then s1 else s2) := by
  cases c
  · exact h2
  · exact h1

/-- a refinement read forwards: where the bit-level reader succeeds, so does the byte-level one, with that value and that remainder -/
theorem Refines.ok {α} {l : LRd α} {s : Rd α} (h : Refines l s) {b : Buf} (hb : RB b) {v : α} {r : Bits} (hs : s (rest b) = .ok v r) :
    ∃ b', l b = some (some v, b') ∧ RB b' ∧ rest b' = r := by
  obtain ⟨x, b', h1, hrb, _, _, hS⟩ := h b hb
  rw [hs] at hS
  cases x with
  | none => cases hS
  | some v' => cases hS; exact ⟨b', h1, hrb, rfl⟩

/-- ... and where it fails, so does the byte-level one -/
theorem Refines.fail {α} {l : LRd α} {s : Rd α} (h : Refines l s) {b : Buf} (hb : RB b) {r : Bits} (hs : s (rest b) = .fail r) :
    ∃ b', l b = some (none, b') := by
  obtain ⟨x, b', h1, _, _, _, hS⟩ := h b hb
  rw [hs] at hS
  cases x with
  | none => exact ⟨b', h1⟩
  | some v' => cases hS

def lReadBit : LRd Bool := fun b => (readBit b).map fun (ok, v, b') => (if ok then some (decide (v = 1)) else none, b')
def lReadInt (mx : Nat) : LRd Nat := fun b => (readInt b mx).map fun (ok, v, b') => (if ok then some v else none, b')
def lReadIntPacked : LRd Nat := fun b => (readIntPacked b).map fun (ok, v, b') => (if ok then some v else none, b')
/-- `bitbuf_read_int_byte_order` -/
def lReadU32 : LRd Nat := fun b => (readU32 b).map fun (ok, v, b') => (if ok then some v else none, b')
/-- `bitbuf_read_bits(bitbuf, out, n)`; the value is what the first `n` bits of the array hold afterwards -/
def lReadBitsInto (out : Mem) (n : Nat) : LRd Bits := fun b => (readBits b out n).map fun (ok, o, b') => (if ok then some (bitsFrom o 0 n) else none, b')

/-- a C-style reader (`ok`, value, buffer) that does on `rest b` what `s` does, repackaged as an `LRd` -/
theorem Refines.of_tuple {α β} (R : Buf → Option (Bool × α × Buf)) (g : α → β) (s : Rd β)
    (h : ∀ b, RB b → ∃ ok v b', R b = some (ok, v, b') ∧ RB b' ∧ b'.mem = b.mem ∧ b'.size = b.size ∧
      s (rest b) = (if ok then .ok (g v) (rest b') else .fail (rest b'))) :
    Refines (fun b => (R b).map fun (ok, v, b') => (if ok then some (g v) else none, b')) s := by
  intro b hb
  obtain ⟨ok, v, b', h1, hrb, hm, hs, hS⟩ := h b hb
  refine ⟨if ok then some (g v) else none, b', by simp [h1], hrb, hm, hs, ?_⟩
  rw [hS]; cases ok <;> rfl

/-- the memory clause of every parser that refines a bit-level reader: no fault, cursor inside, end unchanged -/
theorem Refines.never_faults {α} {l : LRd α} {s : Rd α} (h : Refines l s) (b : Buf) (hb : RB b) :
    ∃ r b', l b = some (r, b') ∧ b'.num ≤ b'.size ∧ b'.size = b.size := by
  obtain ⟨r, b', h1, hrb, _, hs, _⟩ := h b hb
  exact ⟨r, b', h1, hrb.num, hs⟩

/-- two byte-level readers that refine the same bit-level reader agree on every buffer: same value or failure, same cursor - whatever else
they were given (the arrays they read into, and what those held) -/
theorem Refines.agree {α} {l l' : LRd α} {s : Rd α} (h : Refines l s) (h' : Refines l' s) (b : Buf) (hb : RB b) :
    ∃ r b1 b2, l b = some (r, b1) ∧ l' b = some (r, b2) ∧ b1.num = b2.num ∧ b1.mem = b2.mem ∧ b1.size = b2.size := by
  obtain ⟨r, b1, h1, hrb1, hm1, hs1, hS1⟩ := h b hb
  obtain ⟨r', b2, h2, hrb2, hm2, hs2, hS2⟩ := h' b hb
  -- same array, same end, equally many bits left: same cursor
  have hnum : (rest b1).length = (rest b2).length → b1.num = b2.num := fun hlen => by
    have := hrb1.num; have := hrb2.num
    simp only [rest_length] at hlen
    omega
  -- the two results are results of the same bit-level call
  rw [hS1] at hS2
  have hr : r = r' ∧ (rest b1).length = (rest b2).length := by
    cases r <;> cases r' <;> simp only [RR.ok.injEq, RR.fail.injEq, reduceCtorEq] at hS2
    · exact ⟨rfl, congrArg _ hS2⟩
    · exact ⟨congrArg _ hS2.1, congrArg _ hS2.2⟩
  exact ⟨r, b1, b2, h1, hr.1 ▸ h2, hnum hr.2, hm1.trans hm2.symm, hs1.trans hs2.symm⟩

theorem lReadBit_refines : Refines lReadBit Utcp.readBit :=
  Refines.of_tuple readBit (fun v => decide (v = 1)) _ fun b hb => by
    obtain ⟨ok, v, b', h, hrb, hm, hs, hS, _⟩ := readBit_refines b hb
    exact ⟨ok, v, b', h, hrb, hm, hs, hS⟩

theorem lReadInt_refines (mx : Nat) : Refines (lReadInt mx) (Utcp.readInt mx) :=
  Refines.of_tuple (fun b => readInt b mx) id _ fun b hb => by
    obtain ⟨ok, v, b', h, hrb, hm, hs, hS, _⟩ := readInt_refines b hb mx
    exact ⟨ok, v, b', h, hrb, hm, hs, hS⟩

theorem lReadIntPacked_refines : Refines lReadIntPacked Utcp.readIntPacked :=
  Refines.of_tuple readIntPacked id _ readIntPacked_refines

theorem lReadU32_refines : Refines lReadU32 Utcp.readU32 :=
  Refines.of_tuple readU32 id _ readU32_refines

/-- `bitbuf_read_bits` into any array that is large enough (e.g. the 1452-byte data field of a bunch) -/
theorem lReadBitsInto_refines (out : Mem) (hout : BytesOK out) (n : Nat) (hlen : (n + 7) / 8 ≤ out.length) :
    Refines (lReadBitsInto out n) (Utcp.readBits n) :=
  Refines.of_tuple (fun b => readBits b out n) (fun o => bitsFrom o 0 n) _ fun b hb => by
    obtain ⟨ok, o, b', h, hrb, hm, hs, _, _, hS, _⟩ := readBits_refines b hb out hout n hlen
    exact ⟨ok, o, b', h, hrb, hm, hs, hS⟩

end Utcp.BB
