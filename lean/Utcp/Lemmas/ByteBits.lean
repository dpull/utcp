import Utcp.Lemmas.ByteOps
import Utcp.Lemmas.BitIO
/-! Numbers, bit lists and byte arrays: the value of a run of bits of an array, an array as the bits of its bytes one after the other, a bit string
as 32-bit words. -/
namespace Utcp.BB

theorem or_two_pow_of_lt (value i : Nat) (h : value < 2 ^ i) : value ||| 2 ^ i = value + 2 ^ i := by
  have := pack_or 1 value (2 ^ i) i rfl h
  rw [Nat.one_mul] at this
  rw [Nat.or_comm, this, Nat.add_comm]

def wordsBits (ws : List Nat) : Bits := ws.flatMap (natToBits · 8)

theorem wordsBits_length (ws : List Nat) : (wordsBits ws).length = 8 * ws.length := by
  induction ws with
  | nil => rfl
  | cons w ws ih => simp [wordsBits, List.flatMap_cons] at ih ⊢; omega

theorem testBit_bitsToNat (bs : Bits) : ∀ i, (bitsToNat bs).testBit i = bs.getD i false := by
  induction bs with
  | nil => intro i; simp [bitsToNat]
  | cons b bs ih =>
    intro i
    cases i with
    | zero =>
      simp only [bitsToNat, Nat.testBit_zero, List.getD_cons_zero]
      cases b <;> simp <;> omega
    | succ i =>
      rw [Nat.testBit_add_one, List.getD_cons_succ, ← ih i]
      congr 1
      simp only [bitsToNat]
      cases b <;> simp <;> omega

theorem natToBits_getD (n w i : Nat) : (natToBits n w).getD i false = (decide (i < w) && n.testBit i) := by
  rw [← testBit_bitsToNat, bitsToNat_natToBits, Nat.testBit_mod_two_pow]

theorem mod256_eq_bits (m : Mem) (lo x : Nat) (h : ∀ j, j < 8 → x.testBit j = bit m (lo + j)) : x % 256 = bitsToNat (bitsFrom m lo 8) := by
  apply Nat.eq_of_testBit_eq
  intro j
  rw [testBit_bitsToNat, testBit_mod256]
  by_cases hj : j < 8
  · rw [bitsFrom_getD _ _ _ _ hj, h j hj]; simp [hj]
  · rw [List.getD_eq_getElem?_getD, List.getElem?_eq_none (by rw [bitsFrom_length]; omega)]; simp [hj]

theorem bitsToNat_append (a b : Bits) : bitsToNat (a ++ b) = bitsToNat a + 2 ^ a.length * bitsToNat b := by
  induction a with
  | nil => simp [bitsToNat]
  | cons x a ih =>
    simp only [List.cons_append, bitsToNat, ih, List.length_cons, Nat.pow_succ]
    rw [Nat.mul_add, ← Nat.add_assoc, Nat.mul_comm (2 ^ a.length) 2, Nat.mul_assoc]

theorem bitsToNat_byte (m : Mem) (hm : BytesOK m) (i : Nat) : bitsToNat (bitsFrom m (8 * i) 8) = m.getD i 0 := by
  rw [← mod256_eq_bits m (8 * i) (m.getD i 0) fun j hj => (bit_at m i j hj).symm, Nat.mod_eq_of_lt (getD_lt_256 m hm i)]

theorem bit_cons (x : Nat) (m : Mem) (k : Nat) : bit (x :: m) (8 + k) = bit m k := by
  unfold bit
  rw [Nat.add_div_left _ (by decide), Nat.add_mod_left]
  rfl

theorem bitsFrom_eq_wordsBits (m : Mem) (hm : BytesOK m) : bitsFrom m 0 (8 * m.length) = wordsBits m := by
  induction m with
  | nil => rfl
  | cons x m ih =>
    have h0 : bitsToNat (bitsFrom (x :: m) 0 8) = x := bitsToNat_byte (x :: m) hm 0
    have hx := natToBits_bitsToNat (bitsFrom (x :: m) 0 8)
    rw [bitsFrom_length, h0] at hx
    rw [List.length_cons, Nat.mul_succ, Nat.add_comm, bitsFrom_append, ← hx, Nat.zero_add,
      bitsFrom_shift (x :: m) m 8 0 _ (fun i _ => by rw [bit_cons, Nat.zero_add]), ih fun y hy => hm y (List.mem_cons_of_mem _ hy)]
    rfl

theorem natToBits_add (n a b : Nat) : natToBits n (a + b) = natToBits n a ++ natToBits (n / 2 ^ a) b := by
  induction a generalizing n with
  | zero => simp [natToBits]
  | succ a ih => rw [Nat.add_right_comm, natToBits, natToBits, ih, Nat.pow_succ', Nat.div_div_eq_div_mul]; rfl

def words32Bits (ws : List Nat) : Bits := ws.flatMap fun w => natToBits w 32

/-- the history bits cut into the 32-bit words the C code keeps them in (`History[i]`) -/
def histWords : Nat → Bits → List Nat
  | 0, _ => []
  | n + 1, bs => bitsToNat (bs.take 32) :: histWords n (bs.drop 32)

theorem histWords_length (n : Nat) (bs : Bits) : (histWords n bs).length = n := by
  induction n generalizing bs with
  | zero => rfl
  | succ n ih => rw [histWords, List.length_cons, ih]

theorem words32Bits_histWords (n : Nat) (bs : Bits) (h : 32 * n ≤ bs.length) : words32Bits (histWords n bs) = bs.take (32 * n) := by
  induction n generalizing bs with
  | zero => simp [histWords, words32Bits]
  | succ n ih =>
    have h1 : natToBits (bitsToNat (bs.take 32)) 32 = bs.take 32 := by
      have := natToBits_bitsToNat (bs.take 32)
      rwa [List.length_take, Nat.min_eq_left (by omega)] at this
    have := ih (bs.drop 32) (by simp only [List.length_drop]; omega)
    unfold words32Bits at this ⊢
    rw [histWords, List.flatMap_cons, this, h1, show 32 * (n + 1) = 32 + 32 * n by omega, List.take_add]

end Utcp.BB
