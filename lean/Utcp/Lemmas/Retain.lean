import Utcp.Lemmas.SendSteps
import Utcp.Lemmas.RecvAdds
import Utcp.Lemmas.Keeps
/-!
# Retransmission records are never dropped silently (sender side)

`recBits c ch`: the serialized reliable bunches channel `ch` still holds for retransmission.  `RKeep c c'`: every one of them is still
held in `c'` (possibly re-tagged with a new packet id).  Everything keeps them — flushing, sending, the whole receive path, a NAK (which
re-sends and re-queues them), the periodic update (which tears a channel down only when it holds none) — except the release on a
positive acknowledgement, which removes exactly the records tagged with the acknowledged packet id (`onAckChans_split`) and reports
that id to the application (`Fate`).
-/
namespace Utcp
open Gen

def recBits (c : Conn) (ch : Nat) : List Bits :=
  match c.getChan ch with
  | some x => x.outRec.map (·.bits)
  | none => []

theorem recBits_congr {c c' : Conn} {ch : Nat} (h : c'.getChan ch = c.getChan ch) : recBits c' ch = recBits c ch := by
  unfold recBits; rw [h]

def RKeep (c c' : Conn) : Prop := ∀ ch, ∀ b ∈ recBits c ch, b ∈ recBits c' ch

theorem RKeep.refl (c : Conn) : RKeep c c := fun _ _ h => h
theorem RKeep.trans {a b c : Conn} (h1 : RKeep a b) (h2 : RKeep b c) : RKeep a c := fun ch x hx => h2 ch x (h1 ch x hx)

theorem RKeep.of_chans {c c' : Conn} (hc : c'.chans = c.chans) : RKeep c c' :=
  fun ch b hb => by rw [recBits_congr (getChan_of_chans hc ch)]; exact hb

theorem recBits_of_get {c : Conn} {ch : Nat} {x : Channel} (h : c.getChan ch = some x) : recBits c ch = x.outRec.map (·.bits) := by
  unfold recBits; rw [h]

theorem setChan_rkeep (c : Conn) (ch : Nat) (x x' : Channel) (h : c.getChan ch = some x)
    (hsub : ∀ n ∈ x.outRec, ∃ n' ∈ x'.outRec, n'.bits = n.bits) : RKeep c (c.setChan ch x') := by
  intro ch' b hb
  by_cases he : ch' = ch
  · subst he
    rw [recBits_of_get h] at hb
    rw [recBits_of_get (getChan_setChan_self c ch' x')]
    obtain ⟨n, hn, rfl⟩ := List.mem_map.mp hb
    obtain ⟨n', hn', hbits⟩ := hsub n hn
    exact List.mem_map.mpr ⟨n', hn', hbits⟩
  · rw [recBits_congr (getChan_setChan_other he)]; exact hb

theorem setChan_rkeep_outRec (c : Conn) (ch : Nat) (x x' : Channel) (h : c.getChan ch = some x) (ho : x'.outRec = x.outRec) : RKeep c (c.setChan ch x') :=
  setChan_rkeep c ch x x' h (fun n hn => ⟨n, by rw [ho]; exact hn, rfl⟩)

theorem emit_rkeep (c : Conn) (ev : Event) : RKeep c (c.emit ev) := RKeep.of_chans rfl
theorem markClose_rkeep (c : Conn) (r : Nat) : RKeep c (c.markClose r) := RKeep.of_chans (markClose_chans c r)

theorem rkeep_rclosed : RClosed RKeep where
  refl := RKeep.refl
  trans := RKeep.trans
  mem c ev _ := emit_rkeep c ev
  recv c g := emit_rkeep c _
  setChan c ch x x' hx ho _ _ _ := setChan_rkeep_outRec c ch x x' hx ho
  markClosed c ch x r hx := setChan_rkeep_outRec c ch x _ hx (markClosed_outRec x r)
  create c ch hn := by
    obtain ⟨evs, cap, _, heq⟩ := createChan_eq c ch
    rw [heq]
    intro ch' b hb
    by_cases he : ch' = ch
    · subst he; unfold recBits at hb; rw [hn] at hb; cases hb
    · rw [recBits_congr (getChan_setChan_other he)]; exact hb
  markClose := markClose_rkeep
  owe _ := RKeep.of_chans rfl

theorem flush_rkeep (e : Env) (c : Conn) : RKeep c (c.flush e) := RKeep.of_chans (flush_chans e c)

theorem resendNodes_rkeep (e : Env) (ch : Nat) (nodes : List OutNode) : ∀ c : Conn, (c.getChan ch).isSome →
    RKeep c (c.resendNodes e ch nodes) ∧ ∀ n ∈ nodes, n.bits ∈ recBits (c.resendNodes e ch nodes) ch := by
  induction nodes with
  | nil => intro c _; exact ⟨RKeep.refl _, by intro n hn; cases hn⟩
  | cons n rest ih =>
    intro c hs
    obtain ⟨x, hx⟩ := Option.isSome_iff_exists.mp hs
    have hw : RKeep c (c.writeBits e n.bits).1 := RKeep.of_chans (writeBits_chans e c n.bits)
    rw [← writeBits_getChan e c n.bits] at hx
    unfold Conn.resendNodes
    generalize c.writeBits e n.bits = w at hw hx ⊢
    simp only [hx]
    -- the node is appended to the channel's records: they are all still there, and so is the node, whatever comes after
    obtain ⟨i1, i2⟩ := ih (w.1.setChan ch { x with outRec := x.outRec ++ [{ n with packetId := w.2 }] }) (by rw [getChan_setChan_self]; rfl)
    refine ⟨(hw.trans (setChan_rkeep _ ch x _ hx (fun m hm => ⟨m, List.mem_append_left _ hm, rfl⟩))).trans i1, ?_⟩
    intro m hm
    rcases List.mem_cons.mp hm with rfl | hm
    · refine i1 ch _ ?_
      rw [recBits_of_get (getChan_setChan_self _ _ _)]
      exact List.mem_map.mpr ⟨{ m with packetId := w.2 }, by simp, rfl⟩
    · exact i2 m hm

theorem onNakChans_rkeep (e : Env) (pid : Int) (chs : List Nat) (c : Conn) : RKeep c (c.onNakChans e pid chs) := by
  refine onNakChans_steps RKeep.refl RKeep.trans pid (fun c ch x hx => ?_) chs c
  obtain ⟨r1, r2⟩ := resendNodes_rkeep e ch (removeOutgoing pid x.outRec).1 (c.setChan ch { x with outRec := (removeOutgoing pid x.outRec).2 })
    (by rw [getChan_setChan_self]; rfl)
  intro ch' b hb
  by_cases he : ch' = ch
  · subst he
    rw [recBits_of_get hx] at hb
    obtain ⟨n, hn, rfl⟩ := List.mem_map.mp hb
    rcases (removeOutgoing_mem_iff pid x.outRec n).mp hn with h | h
    · exact r2 n h
    · apply r1 ch'
      rw [recBits_of_get (getChan_setChan_self _ _ _)]
      exact List.mem_map.mpr ⟨n, h, rfl⟩
  · apply r1 ch'
    rw [recBits_congr (getChan_setChan_other he)]; exact hb

def TaggedIn (c : Conn) (ch : Nat) (b : Bits) (pid : Int) : Prop := ∃ x n, c.getChan ch = some x ∧ n ∈ x.outRec ∧ n.bits = b ∧ n.packetId = pid

theorem onAckChans_split (pid : Int) (chs : List Nat) : ∀ c : Conn, ∀ ch', ∀ b ∈ recBits c ch',
    b ∈ recBits (c.onAckChans pid chs) ch' ∨ TaggedIn c ch' b pid := by
  induction chs with
  | nil => intro c ch' b hb; exact Or.inl hb
  | cons ch rest ih =>
    intro c ch' b hb
    unfold Conn.onAckChans
    split
    · exact ih c ch' b hb
    · rename_i x hx
      dsimp only
      -- the state after this channel's release
      have hc1 : ∀ ch2, ((removeOutgoing pid x.outRec).1.foldl (fun c _ => c.emit (.free .node)) (c.setChan ch { x with outRec := (removeOutgoing pid x.outRec).2 })).getChan ch2
          = (c.setChan ch { x with outRec := (removeOutgoing pid x.outRec).2 }).getChan ch2 := by
        intro ch2; rw [foldl_emit_eq]; rfl
      generalize hc1def : (removeOutgoing pid x.outRec).1.foldl (fun c _ => c.emit (.free .node)) (c.setChan ch { x with outRec := (removeOutgoing pid x.outRec).2 }) = c1 at hc1
      by_cases he : ch' = ch
      · subst he
        rw [recBits_of_get hx] at hb
        obtain ⟨n, hn, rfl⟩ := List.mem_map.mp hb
        rcases (removeOutgoing_mem_iff pid x.outRec n).mp hn with h | h
        · exact Or.inr ⟨x, n, hx, hn, rfl, removeOutgoing_pid pid x.outRec n h⟩
        · have h1 : n.bits ∈ recBits c1 ch' := by
            unfold recBits; rw [hc1, getChan_setChan_self]
            exact List.mem_map.mpr ⟨n, h, rfl⟩
          rcases ih c1 ch' n.bits h1 with h2 | ⟨x2, n2, hx2, hn2, hb2, hp2⟩
          · exact Or.inl h2
          · rw [hc1, getChan_setChan_self] at hx2
            cases hx2
            exact Or.inr ⟨x, n2, hx, (removeOutgoing_mem_iff pid x.outRec n2).mpr (Or.inr hn2), hb2, hp2⟩
      · have h1 : b ∈ recBits c1 ch' := by
          rw [recBits_congr ((hc1 ch').trans (getChan_setChan_other he))]; exact hb
        rcases ih c1 ch' b h1 with h2 | ⟨x2, n2, hx2, hn2, hb2, hp2⟩
        · exact Or.inl h2
        · rw [hc1, getChan_setChan_other he] at hx2
          exact Or.inr ⟨x2, n2, hx2, hn2, hb2, hp2⟩

/-- what happened between `c` and `c'`: the log grew by `new`, and every record held in `c` is still held in `c'` unless `new` reports a
positive acknowledgement -/
def Fate (c c' : Conn) : Prop :=
  ∃ new, c'.log = new ++ c.log ∧ ∀ ch, ∀ b ∈ recBits c ch, b ∈ recBits c' ch ∨ ∃ pid, Event.status pid true ∈ new

theorem Fate.refl (c : Conn) : Fate c c := ⟨[], rfl, fun _ _ h => Or.inl h⟩

theorem Fate.trans {a b c : Conn} (h1 : Fate a b) (h2 : Fate b c) : Fate a c := by
  obtain ⟨n1, l1, k1⟩ := h1
  obtain ⟨n2, l2, k2⟩ := h2
  refine ⟨n2 ++ n1, by rw [l2, l1, List.append_assoc], ?_⟩
  intro ch x hx
  rcases k1 ch x hx with h | ⟨pid, hp⟩
  · rcases k2 ch x h with h' | ⟨pid, hp⟩
    · exact Or.inl h'
    · exact Or.inr ⟨pid, List.mem_append_left _ hp⟩
  · exact Or.inr ⟨pid, List.mem_append_right _ hp⟩

theorem Fate.of_keep {P : Event → Prop} {c c' : Conn} (hk : RKeep c c') (ha : Adds P c c') : Fate c c' := by
  obtain ⟨new, hl, _⟩ := ha
  exact ⟨new, hl, fun ch b hb => Or.inl (hk ch b hb)⟩

theorem Fate.of_eq {c c' : Conn} (h1 : c'.chans = c.chans) (h2 : c'.log = c.log) : Fate c c' :=
  Fate.of_keep (RKeep.of_chans h1) (Adds.of_log_eq h2 : Adds (fun _ => True) c c')

theorem truePred_recv : RecvPred (fun _ => True) := ⟨fun _ => trivial, fun _ => trivial, fun _ => trivial, fun _ _ _ => trivial⟩

/-- **one notification**: a NAK (or a notification for another packet) loses nothing; an ACK reports a positive status, after which a record may go -/
theorem handleNotification_fate (e : Env) (c : Conn) (v : Int × Bool) : Fate c (c.handleNotification e v) := by
  rw [handleNotification_eq]
  by_cases hid : ((c.lastNotified + 1) % 16384 != v.1) = true
  · rw [if_pos hid]
    exact .of_eq rfl rfl
  · rw [if_neg hid]
    by_cases hv : v.2 = true
    · rw [if_pos hv]
      obtain ⟨n2, l2, _⟩ := onAckChans_adds (c.lastNotified + 1) (c.chans.map (·.1)) { c with lastNotified := c.lastNotified + 1, outAckPacketId := c.lastNotified + 1 }
      exact ⟨.status (c.lastNotified + 1) true :: n2, by rw [emit_log, l2]; rfl, fun _ _ _ => .inr ⟨_, List.mem_cons_self⟩⟩
    · rw [if_neg hv]
      have hk : RKeep c _ := (onNakChans_rkeep e (c.lastNotified + 1) (c.chans.map (·.1)) { c with lastNotified := c.lastNotified + 1 }).trans (emit_rkeep _ (.status (c.lastNotified + 1) false))
      have ha : Adds (fun _ => True) c _ := ((onNakChans_adds e (c.lastNotified + 1) (c.chans.map (·.1)) { c with lastNotified := c.lastNotified + 1 }).mono (fun _ _ => trivial)).emit_trans (.status (c.lastNotified + 1) false) trivial
      exact .of_keep hk ha

theorem notifyUpdate_fate (e : Env) (c : Conn) (h : NotifHeader) : Fate c (c.notifyUpdate e h) :=
  notifyUpdate_closed Fate.refl Fate.trans (handleNotification_fate e) (fun _ _ _ _ _ => .of_eq rfl rfl) c h

theorem receivedPacket_fate (e : Env) (c : Conn) (bits : Bits) : Fate c (c.receivedPacket e bits).1 :=
  receivedPacket_closed Fate.refl Fate.trans (fun c r => .of_eq (markClose_chans c r) (markClose_log c r)) (notifyUpdate_fate e)
    (fun fuel c bits skip => Fate.of_keep (rkeep_rclosed.bunchLoop fuel c bits skip) (bunchLoop_adds truePred_recv fuel c bits skip))
    (fun _ _ => .of_eq rfl rfl) (fun _ _ _ => .of_eq rfl rfl) c bits

theorem sendBunch_rkeep (e : Env) (c : Conn) (b : Bunch) : RKeep c (c.sendBunch e b).1 :=
  sendBunch_closed ⟨RKeep.refl, RKeep.trans, fun _ => RKeep.of_chans rfl, fun _ _ => RKeep.of_chans rfl, fun _ _ => RKeep.of_chans rfl⟩
    rkeep_rclosed.toCClosed rkeep_rclosed.create (fun c ch x _ hx => setChan_rkeep_outRec c ch x _ hx rfl)
    (fun c ch x _ hx => (emit_rkeep c _).trans (setChan_rkeep _ ch x _ hx (fun m hm => ⟨m, List.mem_append_left _ hm, rfl⟩))) c b

/-- **deferred teardown frees only channels that hold no record** (the channel table is sorted, as `BInvK` maintains) -/
theorem update_rkeep (e : Env) (c : Conn) (hs : KeysSorted c.chans) : RKeep c (c.checkTimeout e).updateTail.1 := by
  refine update_sorted_closed RKeep.refl RKeep.trans markClose_rkeep (fun _ _ => RKeep.of_chans rfl) ?_ (fun c _ => emit_rkeep c _) e c hs
  intro c p hs hp _ hemp ch b hb
  by_cases he : ch = p.1
  · subst he
    rw [recBits_of_get (getChan_of_mem_sorted hs hp), hemp] at hb; cases hb
  · rw [recBits_congr (getChan_of_filter_ne rfl he)]; exact hb

end Utcp
