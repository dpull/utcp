import Utcp.Lemmas.RecvSide
/-!
# The order in which reliable bunches are handed to the application

`relLog ch log`: the channel sequence numbers of the reliable bunches of channel `ch` that the log says were delivered
(`on_recv_bunch`), oldest first.  `RecvInv c`: for every open channel, these numbers followed by the numbers of the
reliable fragments still being assembled are strictly increasing and bounded by the channel's `InReliable`; nothing was
ever delivered on a channel that does not exist.  The invariant is preserved by `ReceivedPacket` on any bit string (and by
everything the sending machinery does), so no reliable bunch is delivered twice or out of order — whatever the network
does.
-/
namespace Utcp
open Gen

def relOf (ch : Nat) (g : List Bunch) : List Int := (g.filter (fun b => b.bReliable && b.chIndex == ch)).map (·.chSeq)

/-- the log is newest first; the result is oldest first -/
def relLog (ch : Nat) : List Event → List Int
  | [] => []
  | .recv g :: rest => relLog ch rest ++ relOf ch g
  | _ :: rest => relLog ch rest

theorem relLog_append (ch : Nat) (a b : List Event) : relLog ch (a ++ b) = relLog ch b ++ relLog ch a := by
  induction a with
  | nil => simp [relLog]
  | cons ev rest ih =>
    cases ev <;> simp [relLog, ih, List.append_assoc]

theorem relLog_nonrecv (ch : Nat) (l : List Event) (h : ∀ ev ∈ l, isRecv ev = false) : relLog ch l = [] := by
  induction l with
  | nil => rfl
  | cons ev rest ih =>
    have h1 := h ev List.mem_cons_self
    have h2 := ih (fun e he => h e (List.mem_cons_of_mem _ he))
    cases ev with
    | recv g => cases h1
    | _ => exact h2

theorem relLog_of_adds {P : Event → Prop} {c c' : Conn} (ch : Nat) (h : Adds P c c') (hp : ∀ ev, P ev → isRecv ev = false) :
    relLog ch c'.log = relLog ch c.log := by
  obtain ⟨new, hlog, hnew⟩ := h
  rw [hlog, relLog_append, relLog_nonrecv ch new (fun ev he => hp ev (hnew ev he))]
  simp

theorem relOf_append (ch : Nat) (a b : List Bunch) : relOf ch (a ++ b) = relOf ch a ++ relOf ch b := by
  simp [relOf]

theorem relOf_other (ch ch' : Nat) (g : List Bunch) (h : ∀ f ∈ g, f.chIndex = ch') (hne : ch ≠ ch') : relOf ch g = [] := by
  unfold relOf
  rw [List.map_eq_nil_iff, List.filter_eq_nil_iff]
  intro f hf
  have := h f hf
  simp [this]; intro _; exact fun h' => hne h'.symm

def Below (l : List Int) (m : Int) : Prop := l.Pairwise (· < ·) ∧ ∀ s ∈ l, s ≤ m

theorem Below.nil (m : Int) : Below [] m := ⟨List.Pairwise.nil, by simp⟩

theorem Below.mono {l : List Int} {m m' : Int} (h : Below l m) (hm : m ≤ m') : Below l m' :=
  ⟨h.1, fun s hs => Int.le_trans (h.2 s hs) hm⟩

theorem Below.snoc {l : List Int} {m s : Int} (h : Below l m) (hs : m < s) : Below (l ++ [s]) s := by
  have hlt : ∀ a ∈ l, a < s := fun a ha => Int.lt_of_le_of_lt (h.2 a ha) hs
  refine ⟨?_, ?_⟩
  · rw [List.pairwise_append]
    refine ⟨h.1, by simp, ?_⟩
    intro a ha b hb
    rw [List.mem_singleton.mp hb]
    exact hlt a ha
  · intro a ha
    rcases List.mem_append.mp ha with ha | ha
    · exact Int.le_of_lt (hlt a ha)
    · exact Int.le_of_eq (List.mem_singleton.mp ha)

theorem Below.prefix {l1 l2 : List Int} {m : Int} (h : Below (l1 ++ l2) m) : Below l1 m :=
  ⟨(List.pairwise_append.mp h.1).1, fun s hs => h.2 s (List.mem_append_left _ hs)⟩

def chanRecv (c : Conn) (ch : Nat) : Option (List Bunch × List Bunch × Int) := (c.getChan ch).map recvPart

/-- the receive side of channel `ch`, `t = (InPartialBunch, InRec, InReliable)`, against the deliveries `relL` logged so far -/
structure CInv (ch : Nat) (t : List Bunch × List Bunch × Int) (relL : List Int) : Prop where
  /-- delivered reliable bunches: strictly increasing sequence numbers, none above `InReliable` -/
  dl : Below relL t.2.2
  /-- a reliable group that can still be completed continues the delivered sequence -/
  live : ∀ last, t.1.getLast? = some last → last.bReliable = true → last.chSeq = t.2.2 → Below (relL ++ relOf ch t.1) t.2.2
  bound : ∀ f ∈ t.1, f.bReliable = true → f.chSeq ≤ t.2.2
  homo : ∀ last, t.1.getLast? = some last → ∀ f ∈ t.1, f.bReliable = last.bReliable
  part : ∀ f ∈ t.1, f.chIndex = ch
  queue : ∀ q ∈ t.2.1, q.chIndex = ch ∧ q.bReliable = true
  /-- the out-of-order queue stays below `UTCP_RELIABLE_BUFFER` -/
  qlen : t.2.1.length < reliableBuffer

/-- with nothing being assembled only the delivered numbers and the queue matter -/
theorem cinv_nil {ch : Nat} {Q : List Bunch} {r : Int} {relL : List Int} (hdl : Below relL r) (hq : ∀ q ∈ Q, q.chIndex = ch ∧ q.bReliable = true)
    (hlen : Q.length < reliableBuffer) : CInv ch ([], Q, r) relL :=
  ⟨hdl, fun _ hl => (nomatch hl), fun _ hf => (nomatch hf), fun _ hl => (nomatch hl), fun _ hf => (nomatch hf), hq, hlen⟩

structure RecvInv (c : Conn) : Prop where
  chans : ∀ ch t, chanRecv c ch = some t → CInv ch t (relLog ch c.log)
  absent : ∀ ch, chanRecv c ch = none → relLog ch c.log = []

theorem RSame.relLog {c c' : Conn} (h : RSame c c') (ch : Nat) : relLog ch c'.log = relLog ch c.log := relLog_of_adds ch h.log (fun _ h => h)

theorem RecvInv.of_rquiet {c c' : Conn} (h : RecvInv c) (hs : RQuiet c c') : RecvInv c' := by
  have hlog : ∀ ch, relLog ch c'.log = relLog ch c.log := fun ch => relLog_of_adds ch hs.log (fun _ h => h)
  refine ⟨?_, ?_⟩
  · intro ch t ht
    unfold chanRecv at ht
    cases hx : c'.getChan ch with
    | none => rw [hx] at ht; cases ht
    | some x' =>
      rw [hx] at ht; cases ht
      rw [hlog]
      rcases hs.chan ch x' hx with hc | ⟨hn, hp⟩
      · exact h.chans ch _ hc
      · rw [hp, h.absent ch (by unfold chanRecv; rw [hn]; rfl)]
        exact cinv_nil (Below.nil _) (fun _ hq => (nomatch hq)) (by decide)
  · intro ch hn
    rw [hlog]
    refine h.absent ch ?_
    unfold chanRecv at hn ⊢
    rw [hs.keep ch (by simpa using hn)]; rfl

theorem RecvInv.of_rsame {c c' : Conn} (h : RecvInv c) (hs : RSame c c') : RecvInv c' := h.of_rquiet (.of_rsame hs)

/-- only channel `ch` and the deliveries of channel `ch` may differ -/
structure Upd (ch : Nat) (c c' : Conn) : Prop where
  chan : ∀ ch', ch' ≠ ch → chanRecv c' ch' = chanRecv c ch'
  log : ∀ ch', ch' ≠ ch → relLog ch' c'.log = relLog ch' c.log

theorem Upd.refl (ch : Nat) (c : Conn) : Upd ch c c := ⟨fun _ _ => rfl, fun _ _ => rfl⟩
theorem Upd.trans {ch : Nat} {a b c : Conn} (h1 : Upd ch a b) (h2 : Upd ch b c) : Upd ch a c :=
  ⟨fun ch' hne => (h2.chan ch' hne).trans (h1.chan ch' hne), fun ch' hne => (h2.log ch' hne).trans (h1.log ch' hne)⟩
theorem Upd.of_rsame {ch : Nat} {c c' : Conn} (h : RSame c c') : Upd ch c c' :=
  ⟨fun ch' _ => by unfold chanRecv; exact h.chan ch', fun ch' _ => h.relLog ch'⟩
theorem setChan_upd (c : Conn) (ch : Nat) (x : Channel) : Upd ch c (c.setChan ch x) :=
  ⟨fun ch' hne => by unfold chanRecv; rw [getChan_setChan_other hne], fun _ _ => rfl⟩
theorem emit_recv_upd (c : Conn) (ch : Nat) (g : List Bunch) (hg : ∀ f ∈ g, f.chIndex = ch) : Upd ch c (c.emit (.recv g)) :=
  ⟨fun _ _ => rfl, fun ch' hne => by show relLog ch' c.log ++ relOf ch' g = relLog ch' c.log; rw [relOf_other ch' ch g hg hne]; simp⟩

theorem RecvInv.update {c c' : Conn} (ch : Nat) (h : RecvInv c) (hu : Upd ch c c')
    (hch : ∀ t, chanRecv c' ch = some t → CInv ch t (relLog ch c'.log)) (hnone : chanRecv c' ch = none → relLog ch c'.log = []) : RecvInv c' := by
  refine ⟨?_, ?_⟩
  · intro ch' t ht
    by_cases he : ch' = ch
    · subst he; exact hch t ht
    · rw [hu.log ch' he]; exact h.chans ch' t (by rw [← hu.chan ch' he]; exact ht)
  · intro ch' hn
    by_cases he : ch' = ch
    · subst he; exact hnone hn
    · rw [hu.log ch' he]; exact h.absent ch' (by rw [← hu.chan ch' he]; exact hn)

@[simp] theorem chanRecv_setChan (c : Conn) (ch : Nat) (x : Channel) : chanRecv (c.setChan ch x) ch = some (recvPart x) := by
  unfold chanRecv; rw [getChan_setChan_self]; rfl
@[simp] theorem chanRecv_emit (c : Conn) (ev : Event) (ch : Nat) : chanRecv (c.emit ev) ch = chanRecv c ch := rfl
@[simp] theorem relLog_emit_recv (c : Conn) (g : List Bunch) (ch : Nat) : relLog ch (c.emit (.recv g)).log = relLog ch c.log ++ relOf ch g := rfl
@[simp] theorem relLog_emit_free (c : Conn) (k : Kind) (ch : Nat) : relLog ch (c.emit (.free k)).log = relLog ch c.log := rfl
@[simp] theorem relLog_emit_alloc (c : Conn) (k : Kind) (ch : Nat) : relLog ch (c.emit (.alloc k)).log = relLog ch c.log := rfl
@[simp] theorem relLog_setChan (c : Conn) (ch' : Nat) (x : Channel) (ch : Nat) : relLog ch (c.setChan ch' x).log = relLog ch c.log := rfl

theorem relOf_single_rel (ch : Nat) (b : Bunch) (hr : b.bReliable = true) (hc : b.chIndex = ch) : relOf ch [b] = [b.chSeq] := by
  simp [relOf, hr, hc]

theorem relOf_unrel (ch : Nat) (g : List Bunch) (h : ∀ f ∈ g, f.bReliable = false) : relOf ch g = [] := by
  unfold relOf
  rw [List.map_eq_nil_iff, List.filter_eq_nil_iff]
  intro f hf; simp [h f hf]

/-- the new `InReliable` after bunch `b` was taken as the next one -/
def nextRel (r : Int) (b : Bunch) : Int := if b.bReliable then b.chSeq else r

theorem nextRel_rel {r : Int} {b : Bunch} (hr : b.bReliable = true) : nextRel r b = b.chSeq := by unfold nextRel; rw [if_pos hr]

/-- the fragment list is left alone (refused fragment) -/
theorem cinv_keep {ch : Nat} {P Q : List Bunch} {r : Int} {relL : List Int} (b : Bunch) (h : CInv ch (P, Q, r) relL)
    (hn : b.bReliable = true → b.chSeq = r + 1) : CInv ch (P, Q, nextRel r b) relL := by
  unfold nextRel
  by_cases hr : b.bReliable = true
  · simp only [hr, if_true]
    have hlt : r < b.chSeq := by rw [hn hr]; exact Int.lt_succ r
    refine ⟨h.dl.mono (Int.le_of_lt hlt), ?_, ?_, h.homo, h.part, h.queue, h.qlen⟩
    · -- no fragment is numbered above the old counter, so none carries the new one
      intro last hl hlr hls
      have hmem : last ∈ P := List.mem_of_getLast? hl
      exact absurd (Int.le_trans (Int.le_of_eq hls.symm) (h.bound last hmem hlr)) (Int.not_le.mpr hlt)
    · intro f hf hfr; exact Int.le_trans (h.bound f hf hfr) (Int.le_of_lt hlt)
  · have : b.bReliable = false := by simpa using hr
    simp only [this, Bool.false_eq_true, if_false]; exact h

/-- the fragment list is emptied (discarded group) -/
theorem cinv_clear {ch : Nat} {P Q : List Bunch} {r r' : Int} {relL : List Int} (h : CInv ch (P, Q, r) relL) (hr : r ≤ r') : CInv ch ([], Q, r') relL :=
  cinv_nil (h.dl.mono hr) h.queue h.qlen

theorem cinv_start {ch : Nat} {P Q : List Bunch} {r : Int} {relL : List Int} (b : Bunch) (h : CInv ch (P, Q, r) relL)
    (hc : b.chIndex = ch) (hn : b.bReliable = true → b.chSeq = r + 1) : CInv ch ([b], Q, nextRel r b) relL := by
  have hk := cinv_keep b h hn
  refine ⟨hk.dl, ?_, ?_, ?_, ?_, hk.queue, hk.qlen⟩
  · intro last hl hr _
    obtain rfl : last = b := (Option.some.inj hl).symm
    show Below (relL ++ relOf ch [last]) (nextRel r last)
    rw [relOf_single_rel ch last hr hc, nextRel_rel hr]
    exact h.dl.snoc (by rw [hn hr]; exact Int.lt_succ r)
  · intro f hf hr; rw [List.mem_singleton.mp hf] at hr ⊢; exact Int.le_of_eq (nextRel_rel hr).symm
  · intro last hl f hf; rw [List.mem_singleton.mp hf, (Option.some.inj hl : b = last)]
  · intro f hf; rw [List.mem_singleton.mp hf]; exact hc

theorem cinv_append {ch : Nat} {P Q : List Bunch} {r : Int} {relL : List Int} (b last : Bunch) (h : CInv ch (P, Q, r) relL)
    (hl : P.getLast? = some last) (hm : canMerge last b = true) (hc : b.chIndex = ch) (hn : b.bReliable = true → b.chSeq = r + 1) :
    CInv ch (P ++ [b], Q, nextRel r b) relL := by
  unfold canMerge at hm
  simp only [Bool.and_eq_true, Bool.not_eq_true', beq_iff_eq] at hm
  obtain ⟨⟨_, hseq⟩, hrel⟩ := hm
  have hk := cinv_keep b h hn
  have hlast : ∀ l2, (P ++ [b]).getLast? = some l2 → l2 = b := fun l2 hl2 => by rw [List.getLast?_concat] at hl2; exact (Option.some.inj hl2).symm
  refine ⟨hk.dl, ?_, ?_, ?_, ?_, hk.queue, hk.qlen⟩
  · -- the new last fragment is `b`: if it is reliable, the old last one carries the counter, so the group was live
    intro l2 hl2 hr _
    obtain rfl := hlast l2 hl2
    have hls : last.chSeq = r := by
      unfold seqMatches at hseq; simp only [hr, if_true, beq_iff_eq] at hseq
      have := hn hr; omega
    show Below (relL ++ relOf ch (P ++ [l2])) (nextRel r l2)
    rw [relOf_append, relOf_single_rel ch l2 hr hc, ← List.append_assoc, nextRel_rel hr]
    exact (h.live last hl (hrel ▸ hr) hls).snoc (by rw [hn hr]; exact Int.lt_succ r)
  · intro f hf hfr
    rcases List.mem_append.mp hf with hf | hf
    · exact hk.bound f hf hfr
    · rw [List.mem_singleton.mp hf] at hfr ⊢; exact Int.le_of_eq (nextRel_rel hfr).symm
  · -- the new last fragment has the reliability of the old one, hence of all
    intro l2 hl2 f hf
    obtain rfl := hlast l2 hl2
    rcases List.mem_append.mp hf with hf | hf
    · rw [h.homo last hl f hf, hrel]
    · rw [List.mem_singleton.mp hf]
  · intro f hf
    rcases List.mem_append.mp hf with hf | hf
    · exact h.part f hf
    · rw [List.mem_singleton.mp hf]; exact hc

theorem cinv_deliver {ch : Nat} {G Q : List Bunch} {r : Int} {relL : List Int} (h : CInv ch (G, Q, r) relL)
    (hcur : ∀ last, G.getLast? = some last → last.bReliable = true → last.chSeq = r) : CInv ch ([], Q, r) (relL ++ relOf ch G) := by
  refine cinv_nil ?_ h.queue h.qlen
  cases hg : G.getLast? with
  | none =>
    have : G = [] := by simpa using hg
    subst this; simp [relOf]; exact h.dl
  | some last =>
    by_cases hlr : last.bReliable = true
    · exact h.live last hg hlr (hcur last hg hlr)
    · have hall : ∀ f ∈ G, f.bReliable = false := by
        intro f hf; rw [h.homo last hg f hf]; simpa using hlr
      rw [relOf_unrel ch G hall]; simp; exact h.dl

theorem cinv_single {ch : Nat} {P Q : List Bunch} {r : Int} {relL : List Int} (b : Bunch) (h : CInv ch (P, Q, r) relL)
    (hc : b.chIndex = ch) (hn : b.bReliable = true → b.chSeq = r + 1) : CInv ch (P, Q, nextRel r b) (relL ++ relOf ch [b]) := by
  have hk := cinv_keep b h hn
  unfold nextRel at hk ⊢
  by_cases hr : b.bReliable = true
  · simp only [hr, if_true] at hk ⊢
    have hlt : r < b.chSeq := by rw [hn hr]; exact Int.lt_succ r
    rw [relOf_single_rel ch b hr hc]
    refine ⟨h.dl.snoc hlt, ?_, hk.bound, hk.homo, hk.part, hk.queue, hk.qlen⟩
    intro last hl hlr hls
    exact absurd (Int.le_trans (Int.le_of_eq hls.symm) (h.bound last (List.mem_of_getLast? hl) hlr)) (Int.not_le.mpr hlt)
  · have hr' : b.bReliable = false := by simpa using hr
    simp only [hr', Bool.false_eq_true, if_false] at hk ⊢
    rw [relOf_unrel ch [b] (by intro f hf; rw [List.mem_singleton.mp hf]; exact hr')]; simp; exact hk

/-! ### following one channel through a sequence of primitive steps -/

structure Track (ch : Nat) (c c' : Conn) (t : List Bunch × List Bunch × Int) (extra : List Int) : Prop where
  upd : Upd ch c c'
  chan : chanRecv c' ch = some t
  log : relLog ch c'.log = relLog ch c.log ++ extra

theorem Track.start {ch : Nat} {c : Conn} {t : List Bunch × List Bunch × Int} (h : chanRecv c ch = some t) : Track ch c c t [] :=
  ⟨Upd.refl _ _, h, by simp⟩

theorem Track.rsame {ch : Nat} {c c1 c2 : Conn} {t : List Bunch × List Bunch × Int} {ex : List Int} (h : Track ch c c1 t ex) (hs : RSame c1 c2) :
    Track ch c c2 t ex :=
  ⟨h.upd.trans (Upd.of_rsame hs), by unfold chanRecv; rw [hs.chan ch]; exact h.chan, by rw [hs.relLog ch]; exact h.log⟩

theorem Track.setChan {ch : Nat} {c c1 : Conn} {t : List Bunch × List Bunch × Int} {ex : List Int} (h : Track ch c c1 t ex) (x : Channel) :
    Track ch c (c1.setChan ch x) (recvPart x) ex :=
  ⟨h.upd.trans (setChan_upd c1 ch x), chanRecv_setChan _ _ _, by rw [relLog_setChan]; exact h.log⟩

theorem Track.recv {ch : Nat} {c c1 : Conn} {t : List Bunch × List Bunch × Int} {ex : List Int} (h : Track ch c c1 t ex) (g : List Bunch)
    (hg : ∀ f ∈ g, f.chIndex = ch) : Track ch c (c1.emit (.recv g)) t (ex ++ relOf ch g) :=
  ⟨h.upd.trans (emit_recv_upd c1 ch g hg), h.chan, by rw [relLog_emit_recv, h.log, List.append_assoc]⟩

theorem Track.finish {ch : Nat} {c c' : Conn} {t : List Bunch × List Bunch × Int} {ex : List Int} (hi : RecvInv c) (h : Track ch c c' t ex)
    (hinv : CInv ch t (relLog ch c.log ++ ex)) : RecvInv c' :=
  hi.update ch h.upd (fun t' ht' => by rw [h.chan] at ht'; cases ht'; rw [h.log]; exact hinv) (fun hn => by rw [h.chan] at hn; cases hn)

theorem chanRecv_of_getChan {c : Conn} {ch : Nat} {x : Channel} (h : c.getChan ch = some x) : chanRecv c ch = some (recvPart x) := by
  unfold chanRecv; rw [h]; rfl

theorem recvPart_clear (x : Channel) (P Q : List Bunch) (r : Int) (h : recvPart x = (P, Q, r)) : recvPart { x with inPartial := [] } = ([], Q, r) := by
  simp only [recvPart, Prod.mk.injEq] at h ⊢
  exact ⟨trivial, h.2.1, h.2.2⟩

theorem setChan_recvinv (c : Conn) (ch : Nat) (x x' : Channel) (h : RecvInv c) (hx : c.getChan ch = some x)
    (hinv : CInv ch (recvPart x') (relLog ch c.log)) : RecvInv (c.setChan ch x') :=
  ((Track.start (chanRecv_of_getChan hx)).setChan x').finish h (by simpa using hinv)

theorem recvPart_took (x : Channel) (b : Bunch) : recvPart (x.took b) = (x.inPartial, x.inRec, nextRel x.inReliable b) := by
  unfold Channel.took nextRel; split <;> rfl

variable {B : Bunch → Prop}

/-- a bunch taken as the next one: the invariant holds in the state it was taken from, and if it is reliable it carries the
successor of the counter of the channel it names (for a queued bunch because it sat in its own channel's queue) -/
theorem Taken.recvInv {b : Bunch} {δ : Int} {c c0 : Conn} (h : Taken B b δ c c0) (hi : RecvInv c) :
    RecvInv c0 ∧ ∀ x, c0.getChan b.chIndex = some x → b.bReliable = true → b.chSeq = x.inReliable + 1 := by
  cases h with
  | wire _ _ hx hn => exact ⟨hi, fun x' hx' => by rw [hx] at hx'; cases hx'; exact hn⟩
  | queue ch x rest hx hq hseq =>
    have hci := hi.chans ch _ (chanRecv_of_getChan hx)
    have hb := hci.queue b (by show b ∈ x.inRec; rw [hq]; exact List.mem_cons_self)
    refine ⟨setChan_recvinv c ch x _ hi hx ⟨hci.dl, hci.live, hci.bound, hci.homo, hci.part, ?_, ?_⟩, ?_⟩
    · intro q hqm
      exact hci.queue q (by show q ∈ x.inRec; rw [hq]; exact List.mem_cons_of_mem _ hqm)
    · have := hci.qlen
      simp only [recvPart, hq, List.length_cons] at this ⊢
      omega
    · intro x' hx' _
      rw [hb.1, getChan_setChan_self] at hx'
      cases hx'
      exact hseq

theorem RStep.recvInv {δ : Int} {a b : Conn} (h : RStep B δ a b) (hi : RecvInv a) : RecvInv b := by
  have part_took : ∀ (x : Channel) (b : Bunch) (P : List Bunch), recvPart { x.took b with inPartial := P } = (P, x.inRec, nextRel x.inReliable b) := by
    intro x b P; have := recvPart_took x b; simp only [recvPart, Prod.mk.injEq] at this ⊢; exact ⟨trivial, this.2⟩
  cases h with
  | alloc => exact hi.of_rsame (emit_rsame _ _ rfl)
  | drop => exact hi.of_rsame (emit_rsame _ _ rfl)
  | fail => exact hi.of_rsame (markClose_rsame _ _)
  | create _ h => exact hi.of_rquiet (createChan_rquiet _ _ h)
  | enqueue x b q hb hx hrel hahead hroom hq =>
    have hci := hi.chans b.chIndex _ (chanRecv_of_getChan hx)
    refine setChan_recvinv _ _ x _ hi hx ⟨hci.dl, hci.live, hci.bound, hci.homo, hci.part, ?_, ?_⟩
    · intro y hy
      rcases (enqueue_mem b x.inRec q hq y).mp hy with rfl | hy
      · exact ⟨rfl, hrel⟩
      · exact hci.queue y hy
    · simp only [recvPart]
      rw [enqueue_length b x.inRec q hq]
      omega
  | single x b ht hx hp =>
    obtain ⟨h0, hn⟩ := ht.recvInv hi
    have t1 := ((Track.start (chanRecv_of_getChan hx)).setChan (x.took b)).rsame (noteClose_rsame _ b)
    have t3 := (t1.recv [b] (by intro f hf; simp at hf; subst hf; rfl)).rsame (emit_rsame _ (.free .node) rfl)
    refine t3.finish h0 ?_
    rw [recvPart_took]; simp only [List.nil_append]
    exact cinv_single b (h0.chans b.chIndex _ (chanRecv_of_getChan hx)) rfl (hn x hx)
  | start x b ht hx hp hini =>
    obtain ⟨h0, hn⟩ := ht.recvInv hi
    refine (((Track.start (chanRecv_of_getChan hx)).rsame (freeNodes_rsame _ x.inPartial.length)).setChan { x.took b with inPartial := [b] }).finish h0 ?_
    rw [part_took]; simp only [List.append_nil]
    exact cinv_start b (h0.chans b.chIndex _ (chanRecv_of_getChan hx)) rfl (hn x hx)
  | append x b last ht hx hp hini hl hm =>
    obtain ⟨h0, hn⟩ := ht.recvInv hi
    refine ((Track.start (chanRecv_of_getChan hx)).setChan { x.took b with inPartial := x.inPartial ++ [b] }).finish h0 ?_
    rw [part_took]; simp only [List.append_nil]
    exact cinv_append b last (h0.chans b.chIndex _ (chanRecv_of_getChan hx)) hl hm rfl (hn x hx)
  | refuse x b ht hx hp =>
    obtain ⟨h0, hn⟩ := ht.recvInv hi
    refine (((Track.start (chanRecv_of_getChan hx)).setChan (x.took b)).rsame (emit_rsame _ (.free .node) rfl)).finish h0 ?_
    rw [recvPart_took]; simp only [List.append_nil]
    exact cinv_keep b (h0.chans b.chIndex _ (chanRecv_of_getChan hx)) (hn x hx)
  | discard x b ht hx hp =>
    obtain ⟨h0, hn⟩ := ht.recvInv hi
    refine ((((Track.start (chanRecv_of_getChan hx)).rsame (freeNodes_rsame _ x.inPartial.length)).setChan { x.took b with inPartial := [] }).rsame
      (emit_rsame _ (.free .node) rfl)).finish h0 ?_
    rw [part_took]; simp only [List.append_nil]
    exact cinv_clear (cinv_keep b (h0.chans b.chIndex _ (chanRecv_of_getChan hx)) (hn x hx)) (Int.le_refl _)
  | stray _ ht hx => exact (ht.recvInv hi).1.of_rsame (emit_rsame _ _ rfl)
  | deliver ch x last hx hl hf hcur hlen =>
    have hci := hi.chans ch _ (chanRecv_of_getChan hx)
    have t5 := (((Track.start (chanRecv_of_getChan hx)).rsame (foldl_noteClose_rsame x.inPartial _)).recv x.inPartial hci.part).rsame
      (freeNodes_rsame _ x.inPartial.length)
    have hdel : CInv ch ([], x.inRec, x.inReliable) (relLog ch a.log ++ ([] ++ relOf ch x.inPartial)) := by
      simp only [List.nil_append]
      refine cinv_deliver hci ?_
      intro l hl' hlr
      rw [hl] at hl'; cases hl'; exact hcur hlr
    obtain ⟨y, _, hp, heq⟩ := delivered_eq a ch x hx x.inPartial
    rw [heq]
    refine (t5.setChan { y with inPartial := [] }).finish hi ?_
    rw [recvPart_clear y _ _ _ hp]; exact hdel
  | overflow ch x hx hlen =>
    refine ((((Track.start (chanRecv_of_getChan hx)).rsame (freeNodes_rsame a x.inPartial.length)).setChan { x with inPartial := [] }).rsame
      (markClose_rsame _ crBunchOverflow)).finish hi ?_
    simp only [List.append_nil]
    exact cinv_clear (hi.chans ch (recvPart x) (chanRecv_of_getChan hx)) (Int.le_refl _)

theorem recvInv_side : RecvSide (fun _ => True) RecvInv (fun _ => True) :=
  ⟨RecvInv.of_rquiet, fun _ _ => trivial, fun s h => ⟨s.recvInv h, (adds_rclosed (fun _ _ => trivial) (fun _ => trivial)).step s⟩⟩

theorem empty_recvinv (c : Conn) (hc : c.chans = []) (hl : ∀ ch, relLog ch c.log = []) : RecvInv c := by
  refine ⟨?_, fun ch _ => hl ch⟩
  intro ch t ht
  unfold chanRecv Conn.getChan at ht
  rw [hc] at ht; simp at ht

theorem RecvInv.increasing {c : Conn} (h : RecvInv c) (ch : Nat) : (relLog ch c.log).Pairwise (· < ·) := by
  cases ht : chanRecv c ch with
  | none => rw [h.absent ch ht]; exact List.Pairwise.nil
  | some t => exact (h.chans ch t ht).dl.1

end Utcp
