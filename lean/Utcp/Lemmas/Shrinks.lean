import Utcp.Bunch
import Utcp.Lemmas.BitIO
/-! Readers never produce bits: whatever a reader returns (success or failure), the remainder is no longer than
the input — the cursor stays inside the buffer — and a bunch read on a non-empty input consumes at least one bit. -/
namespace Utcp

def RR.rest {α} : RR α → Bits
  | .ok _ r => r
  | .fail r => r

def Shrinks {α} (m : Rd α) : Prop := ∀ bs, (m bs).rest.length ≤ bs.length

theorem Shrinks.pure {α} (a : α) : Shrinks (Pure.pure a : Rd α) := fun bs => by simp [RR.rest]

theorem Shrinks.bind {α β} {m : Rd α} {f : α → Rd β} (hm : Shrinks m) (hf : ∀ a, Shrinks (f a)) : Shrinks (m >>= f) := by
  intro bs
  have h1 := hm bs
  simp only [Rd.bind_apply]
  cases h : m bs with
  | ok v r => simp only [h, RR.rest] at h1 ⊢; exact Nat.le_trans (hf v r) h1
  | fail r => simp only [h, RR.rest] at h1 ⊢; exact h1

theorem Shrinks.bind_lt {α β} {m : Rd α} {f : α → Rd β} {bs : Bits} (hm : (m bs).rest.length < bs.length) (hf : ∀ a, Shrinks (f a)) :
    ((m >>= f) bs).rest.length < bs.length := by
  rw [Rd.bind_apply]
  cases h : m bs with
  | ok v r => rw [h] at hm; exact Nat.lt_of_le_of_lt (hf v r) hm
  | fail r => rw [h] at hm; exact hm

theorem Shrinks.ite {α} (c : Bool) {a b : Rd α} (ha : Shrinks a) (hb : Shrinks b) : Shrinks (if c then a else b) := by
  cases c <;> simp [ha, hb]

theorem readBit_shrinks : Shrinks readBit := by
  intro bs; cases bs <;> simp [readBit, RR.rest]

theorem readBits_shrinks (n : Nat) : Shrinks (readBits n) := by
  intro bs; unfold readBits; split <;> simp [RR.rest]

theorem rIntLoop_shrinks (fuel mx : Nat) (start : Bits) : ∀ mask nv bs, bs.length ≤ start.length → (rIntLoop fuel mx mask nv start bs).rest.length ≤ start.length := by
  induction fuel with
  | zero => intro mask nv bs h; simpa [rIntLoop, RR.rest] using h
  | succ f ih =>
    intro mask nv bs h
    unfold rIntLoop
    split
    · cases bs with
      | nil => simp [RR.rest]
      | cons b t => exact ih _ _ t (by simp at h; omega)
    · simpa [RR.rest] using h

theorem readInt_shrinks (mx : Nat) : Shrinks (readInt mx) := fun bs => rIntLoop_shrinks 33 mx bs 1 0 bs (Nat.le_refl _)

theorem rPackedLoop_shrinks (fuel : Nat) : ∀ shift acc, Shrinks (rPackedLoop fuel shift acc) := by
  induction fuel with
  | zero => intro s a bs; simp [rPackedLoop, RR.rest]
  | succ f ih =>
    intro s a bs
    unfold rPackedLoop
    have h8 := readBits_shrinks 8 bs
    cases h : readBits 8 bs with
    | fail r => rw [h] at h8; simpa [RR.rest] using h8
    | ok byte rest =>
      rw [h] at h8
      simp only [RR.rest] at h8
      simp only
      split
      · exact Nat.le_trans (ih _ _ rest) h8
      · simpa [RR.rest] using h8

theorem readIntPacked_shrinks : Shrinks readIntPacked := rPackedLoop_shrinks 5 0 0

theorem failHere_shrinks {α} : Shrinks (Rd.failHere : Rd α) := fun bs => by simp [Rd.failHere, RR.rest]

theorem readCtl_shrinks : Shrinks readCtl := by
  unfold readCtl
  refine Shrinks.bind readBit_shrinks fun ctl => ?_
  refine Shrinks.bind (Shrinks.ite ctl readBit_shrinks (Shrinks.pure _)) fun o => ?_
  refine Shrinks.bind (Shrinks.ite ctl readBit_shrinks (Shrinks.pure _)) fun c => ?_
  refine Shrinks.bind (Shrinks.ite c (readInt_shrinks _) (Shrinks.pure _)) fun r => Shrinks.pure _

theorem readSeq_shrinks (r : Bool) : Shrinks (readSeq r) := by
  unfold readSeq; exact Shrinks.ite r (readInt_shrinks _) (Shrinks.pure _)

theorem readPartialFlags_shrinks (p : Bool) : Shrinks (readPartialFlags p) := by
  unfold readPartialFlags
  exact Shrinks.ite p (Shrinks.bind readBit_shrinks fun _ => Shrinks.bind readBit_shrinks fun _ => Shrinks.pure _) (Shrinks.pure _)

theorem readName_shrinks (h : Bool) : Shrinks (readName h) := by
  unfold readName
  refine Shrinks.ite h (Shrinks.bind readBit_shrinks fun hard => ?_) (Shrinks.pure _)
  exact Shrinks.ite (!hard) failHere_shrinks readIntPacked_shrinks

/-- `decodeBunch` is the control stage followed by readers that never produce bits -/
theorem decodeBunch_after_ctl : ∃ k : Bool × Bool × Nat → Rd Bunch, decodeBunch = (readCtl >>= k) ∧ ∀ x, Shrinks (k x) := by
  refine ⟨_, rfl, fun ⟨o, c, r⟩ => ?_⟩
  refine Shrinks.bind readBit_shrinks fun _ => ?_
  refine Shrinks.bind readBit_shrinks fun rel => ?_
  refine Shrinks.bind readIntPacked_shrinks fun _ => ?_
  refine Shrinks.bind readBit_shrinks fun _ => ?_
  refine Shrinks.bind readBit_shrinks fun _ => ?_
  refine Shrinks.bind readBit_shrinks fun p => ?_
  refine Shrinks.bind (readSeq_shrinks rel) fun _ => ?_
  refine Shrinks.bind (readPartialFlags_shrinks p) fun ⟨_, _⟩ => ?_
  refine Shrinks.bind (readName_shrinks _) fun _ => ?_
  refine Shrinks.bind (readInt_shrinks _) fun n => ?_
  exact Shrinks.bind (readBits_shrinks n) fun _ => Shrinks.pure _

theorem decodeBunch_shrinks : Shrinks decodeBunch := by
  obtain ⟨k, hk, hs⟩ := decodeBunch_after_ctl
  rw [hk]; exact Shrinks.bind readCtl_shrinks hs

theorem decodeBunch_progress (b : Bool) (bs : Bits) : (decodeBunch (b :: bs)).rest.length < (b :: bs).length := by
  obtain ⟨k, hk, hs⟩ := decodeBunch_after_ctl
  rw [hk]
  refine Shrinks.bind_lt (Nat.lt_succ_of_le ?_) hs
  -- `readCtl` on a non-empty input: its first read (one bit) succeeds, what follows produces nothing
  unfold readCtl
  simp only [Rd.bind_apply, readBit_cons]
  exact (Shrinks.bind (Shrinks.ite b readBit_shrinks (Shrinks.pure false)) fun o =>
    Shrinks.bind (Shrinks.ite b readBit_shrinks (Shrinks.pure false)) fun c =>
    Shrinks.bind (Shrinks.ite c (readInt_shrinks closeReasonMax) (Shrinks.pure 0)) fun r => (Shrinks.pure (o, c, r))) bs

end Utcp
