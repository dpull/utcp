import Utcp.Lemmas.SendSteps
/-! The event log is a monotone history: every operation only *adds* events.  `Adds P c c'` says that `c'`'s log
extends `c`'s by events that all satisfy `P`. -/
namespace Utcp
open Gen

def Adds (P : Event → Prop) (c c' : Conn) : Prop := ∃ evs, c'.log = evs ++ c.log ∧ ∀ ev ∈ evs, P ev

theorem Adds.refl (P : Event → Prop) (c : Conn) : Adds P c c := ⟨[], rfl, by simp⟩

theorem Adds.of_log_eq {P : Event → Prop} {c c' : Conn} (h : c'.log = c.log) : Adds P c c' := ⟨[], by simp [h], by simp⟩

theorem Adds.trans {P : Event → Prop} {a b c : Conn} (h1 : Adds P a b) (h2 : Adds P b c) : Adds P a c := by
  obtain ⟨e1, l1, p1⟩ := h1
  obtain ⟨e2, l2, p2⟩ := h2
  refine ⟨e2 ++ e1, by rw [l2, l1, List.append_assoc], ?_⟩
  intro ev hev
  rcases List.mem_append.mp hev with h | h
  · exact p2 ev h
  · exact p1 ev h

theorem Adds.mono {P Q : Event → Prop} {a b : Conn} (h : Adds P a b) (hpq : ∀ ev, P ev → Q ev) : Adds Q a b := by
  obtain ⟨e1, l1, p1⟩ := h
  exact ⟨e1, l1, fun ev hev => hpq ev (p1 ev hev)⟩

theorem Adds.mem {P : Event → Prop} {c c' : Conn} (h : Adds P c c') {ev : Event} (hev : ev ∈ c'.log) : P ev ∨ ev ∈ c.log := by
  obtain ⟨new, hlog, hnew⟩ := h
  rw [hlog] at hev
  exact (List.mem_append.mp hev).imp_left (hnew ev)

theorem Adds.emit {P : Event → Prop} (c : Conn) (ev : Event) (h : P ev) : Adds P c (c.emit ev) :=
  ⟨[ev], rfl, by simpa using h⟩

theorem Adds.emit_trans {P : Event → Prop} {a b : Conn} (h : Adds P a b) (ev : Event) (hp : P ev) : Adds P a (b.emit ev) :=
  h.trans (Adds.emit b ev hp)

theorem Adds.filter_eq {P : Event → Prop} {a b : Conn} (h : Adds P a b) (f : Event → Bool) (hf : ∀ ev, P ev → f ev = false) :
    b.log.filter f = a.log.filter f := by
  obtain ⟨evs, hl, hp⟩ := h
  rw [hl, List.filter_append]
  have : evs.filter f = [] := by
    rw [List.filter_eq_nil_iff]
    intro ev hev; simp [hf ev (hp ev hev)]
  simp [this]

def isOut : Event → Prop | .out _ => True | _ => False
def isStatus : Event → Bool | .status _ _ => true | _ => false
def isRecv : Event → Bool | .recv _ => true | _ => false
def isFreeNode : Event → Prop | .free .node => True | _ => False

/-- a condition on callbacks holds vacuously of an event that is no callback -/
theorem of_not_recv {F : List Bunch → Prop} (ev : Event) (h : isRecv ev = false) : ∀ g, ev = .recv g → F g := by
  intro g hg; subst hg; cases h

theorem markClose_adds (P : Event → Prop) (c : Conn) (r : Nat) : Adds P c (c.markClose r) := Adds.of_log_eq (markClose_log c r)
theorem setChan_adds (P : Event → Prop) (c : Conn) (ch : Nat) (x : Channel) : Adds P c (c.setChan ch x) := Adds.of_log_eq rfl
theorem startPacket_adds (P : Event → Prop) (c : Conn) : Adds P c c.startPacket := Adds.of_log_eq rfl

theorem adds_sclosed {P : Event → Prop} (e : Env) (hout : ∀ bytes, P (.out bytes)) : SClosed e (Adds P) where
  refl := Adds.refl P
  trans := Adds.trans
  startPacket := startPacket_adds P
  flushNow c _ := ⟨[.out _], rfl, by simpa using hout _⟩
  append _ _ := Adds.of_log_eq rfl
  setOut c ch _ _ _ := setChan_adds P c ch _

theorem adds_cclosed (P : Event → Prop) : CClosed (Adds P) :=
  ⟨Adds.refl P, Adds.trans, markClose_adds P, fun c ch _ _ _ => setChan_adds P c ch _, fun _ => Adds.of_log_eq rfl⟩

theorem createChan_adds {P : Event → Prop} (hm : ∀ ev, isMem ev → P ev) (c : Conn) (ch : Nat) : Adds P c (c.createChan ch) := by
  obtain ⟨evs, cap, hev, heq⟩ := createChan_eq c ch
  rw [heq]
  exact ⟨evs, rfl, fun ev h => hm ev (by rcases hev ev h with rfl | rfl | rfl <;> trivial)⟩

theorem adds_rclosed {P : Event → Prop} (hm : ∀ ev, isMem ev → P ev) (hr : ∀ g, P (.recv g)) : RClosed (Adds P) :=
  { adds_cclosed P with
    mem := fun c ev h => Adds.emit c ev (hm ev h), recv := fun c g => Adds.emit c _ (hr g)
    setChan := fun c ch _ x' _ _ _ _ _ => setChan_adds P c ch x', create := fun c ch _ => createChan_adds hm c ch }

theorem isOut_sclosed (e : Env) : SClosed e (Adds isOut) := adds_sclosed e (fun _ => trivial)

theorem flush_adds (e : Env) (c : Conn) : Adds isOut c (c.flush e) := (isOut_sclosed e).flush c
theorem onNakChans_adds (e : Env) (pid : Int) (chs : List Nat) (c : Conn) : Adds isOut c (c.onNakChans e pid chs) := (isOut_sclosed e).onNakChans pid chs c

theorem freeNodes_adds {P : Event → Prop} (hP : P (.free .node)) (c : Conn) (k : Nat) : Adds P c (c.freeNodes k) := by
  rw [freeNodes_eq]; exact ⟨_, rfl, fun ev h => by rw [List.eq_of_mem_replicate h]; exact hP⟩

theorem onAckChans_adds (pid : Int) (chs : List Nat) (c : Conn) : Adds isFreeNode c (c.onAckChans pid chs) :=
  onAckChans_closed (Adds.refl _) Adds.trans (fun c ch _ _ _ => setChan_adds _ c ch _) (fun c => Adds.emit c _ trivial) pid chs c

theorem sendBunch_adds {P : Event → Prop} (e : Env) (hout : ∀ bytes, P (.out bytes)) (hm : ∀ ev, isMem ev → P ev) (c : Conn) (b : Bunch) :
    Adds P c (c.sendBunch e b).1 :=
  sendBunch_closed (adds_sclosed e hout).toBClosed (adds_cclosed P) (fun c ch _ => createChan_adds hm c ch) (fun c ch _ _ _ => setChan_adds P c ch _)
    ((adds_sclosed e hout).record fun c => Adds.emit c _ (hm _ trivial)) c b

theorem update_adds {P : Event → Prop} (e : Env) (hm : ∀ ev, isMem ev → P ev) (hr : ∀ g, P (.recv g)) (hbye : ∀ r, P (.disconnect r)) (c : Conn) :
    Adds P c (c.checkTimeout e).updateTail.1 :=
  update_closed (adds_rclosed hm hr) (fun _ _ => Adds.of_log_eq rfl) (fun _ _ => Adds.of_log_eq rfl) (fun c r => Adds.emit c _ (hbye r)) c

abbrev AnyEv : Event → Prop := fun _ => True

theorem update_any (e : Env) (c : Conn) : Adds AnyEv c (c.checkTimeout e).updateTail.1 :=
  update_adds e (fun _ _ => trivial) (fun _ => trivial) (fun _ => trivial) c

theorem sendBunch_any (e : Env) (c : Conn) (b : Bunch) : Adds AnyEv c (c.sendBunch e b).1 := sendBunch_adds e (fun _ => trivial) (fun _ _ => trivial) c b

theorem flush_any (e : Env) (c : Conn) : Adds AnyEv c (c.flush e) := (flush_adds e c).mono (fun _ _ => trivial)

/-! ### invariants with a log: the device that lets what holds of relations hold of invariants -/

abbrev Pres (I : Conn → Prop) (P : Event → Prop) (c c' : Conn) : Prop := I c → I c' ∧ Adds P c c'

theorem Pres.refl {I : Conn → Prop} {P : Event → Prop} (c : Conn) : Pres I P c c := fun h => ⟨h, Adds.refl _ _⟩
theorem Pres.trans {I : Conn → Prop} {P : Event → Prop} {a b c : Conn} (h1 : Pres I P a b) (h2 : Pres I P b c) : Pres I P a c :=
  fun h => ⟨(h2 (h1 h).1).1, (h1 h).2.trans (h2 (h1 h).1).2⟩

end Utcp
