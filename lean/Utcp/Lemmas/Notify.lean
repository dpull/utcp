import Utcp.Lemmas.Conn
import Utcp.Props.C13
/-!
# The receiver's acknowledgement history, with a ghost

`packet_notify_ack_seq` pushes one bit per sequence number into a 256-bit shift register.  The ghost list `tg`
remembers *which* sequence number each bit belongs to and the ghost list `calls` remembers every
`(sequence, verdict)` the receive path asked to be recorded.  `RInv` ties the three together.
-/
namespace Utcp
open Gen Props.C13

/-- the 256-bit register that holds the verdicts `tg` (newest first) on top of the initial zeros -/
def histOf (tg : List (Int × Bool)) : List Bool := ((tg.map (·.2)) ++ List.replicate 256 false).take 256

theorem histLen_eq : histLen = 256 := by decide

theorem histOf_nil : histOf [] = List.replicate histLen false := by
  rw [histLen_eq]; simp only [histOf, List.map_nil, List.nil_append, List.take_replicate, Nat.min_self]

theorem pushHist_histOf (tg : List (Int × Bool)) (s : Int) (b : Bool) : pushHist (histOf tg) b = histOf ((s, b) :: tg) := by
  unfold pushHist histOf
  rw [histLen_eq]
  simp only [List.map_cons, List.cons_append]
  rw [show (256 : Nat) = 255 + 1 from rfl, List.take_succ_cons, List.take_succ_cons]
  congr 1
  rw [List.take_take]
  congr 1

theorem histOf_getD (tg : List (Int × Bool)) (k : Nat) :
    (histOf tg).getD k false = true ↔ ∃ hk : k < tg.length, k < 256 ∧ (tg[k]).2 = true := by
  unfold histOf
  rw [List.getD_eq_getElem?_getD, List.getElem?_take]
  by_cases hk256 : k < 256
  · simp only [hk256, if_true]
    by_cases hk : k < tg.length
    · rw [List.getElem?_append_left (by simpa using hk)]
      simp [hk]
    · rw [List.getElem?_append_right (by simpa using Nat.le_of_not_lt hk), List.getElem?_replicate]
      constructor
      · intro h; split at h <;> cases h
      · intro ⟨hk', _⟩; exact absurd hk' hk
  · simp [hk256]

structure RInv (n : Notify) (tg : List (Int × Bool)) (calls : List (Int × Bool)) : Prop where
  range : 0 ≤ n.inAckSeq ∧ n.inAckSeq < 16384
  hist : n.hist = histOf tg
  /-- bit `k` of the register belongs to sequence number `inAckSeq - k` -/
  keys : ∀ k (hk : k < tg.length), (tg[k]).1 = (n.inAckSeq - (k : Int)) % 16384
  /-- a set bit was put there by a request to acknowledge exactly that sequence number -/
  prov : ∀ p ∈ tg, p.2 = true → p ∈ calls

theorem RInv.mono {n : Notify} {tg calls calls' : List (Int × Bool)} (h : RInv n tg calls) (hs : ∀ p ∈ calls, p ∈ calls') : RInv n tg calls' :=
  ⟨h.range, h.hist, h.keys, fun p hp ht => hs p (h.prov p hp ht)⟩

theorem RInv.congr {n n' : Notify} {tg calls : List (Int × Bool)} (h : RInv n tg calls) (h1 : n'.hist = n.hist) (h2 : n'.inAckSeq = n.inAckSeq) :
    RInv n' tg calls :=
  ⟨by rw [h2]; exact h.range, by rw [h1]; exact h.hist, by rw [h2]; exact h.keys, h.prov⟩

theorem init_rinv (n : Notify) (i o : Int) (hi : 0 ≤ i ∧ i < 16384) : RInv (n.init i o) [] [] := by
  refine ⟨hi, ?_, ?_, ?_⟩
  · exact histOf_nil.symm
  · intro k hk; simp at hk
  · intro p hp; simp at hp

theorem RInv.push {n : Notify} {tg calls : List (Int × Bool)} (h : RInv n tg calls) (b : Bool)
    (hb : b = true → (seq_num_inc n.inAckSeq 1, true) ∈ calls) : RInv (n.push b) ((seq_num_inc n.inAckSeq 1, b) :: tg) calls := by
  have hs := Props.C13.inc_eq n.inAckSeq 1
  refine ⟨seq_num_inc_range _ _, ?_, ?_, ?_⟩
  · show pushHist n.hist b = histOf _
    rw [h.hist]; exact pushHist_histOf tg _ _
  · intro k hk
    show ((seq_num_inc n.inAckSeq 1, b) :: tg)[k].1 = (seq_num_inc n.inAckSeq 1 - (k : Int)) % 16384
    cases k with
    | zero => simp only [List.getElem_cons_zero]; rw [hs]; omega
    | succ k =>
      simp only [List.getElem_cons_succ]
      rw [h.keys k (by simpa using hk), hs, Int.emod_sub_emod]
      congr 1; push_cast; omega
  · intro p hp ht
    rcases List.mem_cons.mp hp with rfl | hp
    · have hb' : b = true := ht
      subst hb'; exact hb rfl
    · exact h.prov p hp ht

/-- the loop is a run of pushes; the only `true` it can record is `isAck`, for `acked` -/
theorem ackSeqLoop_rinv (fuel : Nat) : ∀ (n : Notify) (tg calls : List (Int × Bool)) (acked : Int) (isAck : Bool),
    RInv n tg calls → (isAck = true → (acked, true) ∈ calls) → ∃ tg', RInv (ackSeqLoop fuel n acked isAck) tg' calls := by
  induction fuel with
  | zero => intro n tg calls acked isAck h _; exact ⟨tg, h⟩
  | succ fuel ih =>
    intro n tg calls acked isAck h hc
    rw [ackSeqLoop_succ]
    split
    · refine ih _ _ calls acked isAck (h.push _ ?_) hc
      intro hb
      split at hb
      · rename_i he
        rw [beq_iff_eq.mp he]; exact hc hb
      · cases hb
    · exact ⟨tg, h⟩

/-- **`packet_notify_ack_seq` keeps the meaning of the register**; the only new request is `(seq mod 2^14, verdict)` -/
theorem ackSeq_rinv (n : Notify) (tg calls : List (Int × Bool)) (s : Int) (isAck : Bool) (h : RInv n tg calls) :
    ∃ tg', RInv (n.ackSeq s isAck) tg' ((s % 16384, isAck) :: calls) := by
  unfold Notify.ackSeq
  rw [seq_num_init_mod]
  exact ackSeqLoop_rinv 16384 n tg _ _ isAck (h.mono fun p hp => List.mem_cons_of_mem _ hp) (fun ht => by rw [ht]; exact List.mem_cons_self)

/-! ## reading a header back: which register position a verdict stands for -/

/-- the `i`-th verdict (oldest first) of `d` newly covered packets stands for register position `d - 1 - i` -/
theorem verdicts_getElem? (outAck : Int) (h : NotifHeader) (d i : Nat) (hi : i < d) :
    (verdicts outAck h d)[i]? =
      some (seq_num_inc outAck ((i + 1 : Nat) : Int), if d - 1 - i ≥ histLen then false else h.hist.getD (d - 1 - i) false) := by
  unfold verdicts
  rw [List.getElem?_map, List.getElem?_range hi]
  rfl

theorem verdicts_length (outAck : Int) (h : NotifHeader) (d : Nat) : (verdicts outAck h d).length = d := by simp [verdicts]

/-- the `i`-th verdict carries the sequence number `acked - (d - 1 - i)`, when `d` is the circular distance from `outAck` to `acked` -/
theorem verdict_seq (acked outAck : Int) (i : Nat) (hi : i < (seq_num_diff acked outAck).toNat) :
    seq_num_inc outAck ((i + 1 : Nat) : Int) = (acked - (((seq_num_diff acked outAck).toNat - 1 - i : Nat) : Int)) % 16384 := by
  have hd := diff_range acked outAck
  -- neither subtraction truncates, since `i < diff.toNat`
  have : (((seq_num_diff acked outAck).toNat - 1 - i : Nat) : Int) = seq_num_diff acked outAck - 1 - i := by omega
  -- both sides are congruent: their difference is `diff - (acked - outAck)`, a multiple of 2^14
  rw [this, inc_eq, Int.emod_eq_emod_iff_emod_sub_eq_zero]
  have : outAck + ((i + 1 : Nat) : Int) - (acked - (seq_num_diff acked outAck - 1 - i)) = seq_num_diff acked outAck - (acked - outAck) := by
    push_cast; omega
  rw [this]
  exact hd.2.2

theorem headerWith_bit (n : Notify) (w idx : Nat) :
    (if idx ≥ histLen then false else (n.headerWith w).hist.getD idx false) = true ↔
      idx < 256 ∧ idx < 32 * (min w histWordsMax) ∧ n.hist.getD idx false = true := by
  have hbitdef : (n.headerWith w).hist = n.hist.take (32 * (min w histWordsMax)) := rfl
  rw [hbitdef, histLen_eq, List.getD_eq_getElem?_getD, List.getElem?_take, List.getD_eq_getElem?_getD]
  by_cases h1 : idx < 256
  · rw [if_neg (Nat.not_le.mpr h1)]
    by_cases h2 : idx < 32 * (min w histWordsMax)
    · rw [if_pos h2]; exact ⟨fun h => ⟨h1, h2, h⟩, fun h => h.2.2⟩
    · rw [if_neg h2]; exact ⟨(fun h => nomatch h), fun h => absurd h.2.1 h2⟩
  · rw [if_pos (Nat.le_of_not_lt h1)]; exact ⟨(fun h => nomatch h), fun h => absurd h.1 h1⟩

/-- **what a set bit in an acknowledgement header means**: if the sender turns header `h` (written by a receiver whose
register satisfies `RInv`) into verdicts, every ACK verdict names a sequence number the receiver was asked to acknowledge -/
theorem verdicts_sound (n : Notify) (tg calls : List (Int × Bool)) (w : Nat) (outAck : Int) (h : RInv n tg calls) :
    ∀ v ∈ verdicts outAck (n.headerWith w) (seq_num_diff n.inAckSeq outAck).toNat, v.2 = true → v ∈ calls := by
  intro v hv ht
  obtain ⟨i, hi, hvi⟩ := List.getElem_of_mem hv
  have hi' : i < (seq_num_diff n.inAckSeq outAck).toNat := by rwa [verdicts_length] at hi
  have hget := verdicts_getElem? outAck (n.headerWith w) _ i hi'
  rw [List.getElem?_eq_getElem hi, hvi, Option.some.injEq] at hget
  -- the bit is set, so it lies inside the register and inside the transmitted words, and `tg` has the request there
  rw [hget] at ht ⊢
  obtain ⟨_, _, hbit⟩ := (headerWith_bit n w _).mp ht
  rw [h.hist] at hbit
  obtain ⟨hk, _, hv2⟩ := (histOf_getD tg _).mp hbit
  have hpair : (seq_num_inc outAck ((i + 1 : Nat) : Int), if (seq_num_diff n.inAckSeq outAck).toNat - 1 - i ≥ histLen then false
      else (n.headerWith w).hist.getD ((seq_num_diff n.inAckSeq outAck).toNat - 1 - i) false) = tg[(seq_num_diff n.inAckSeq outAck).toNat - 1 - i] := by
    rw [Prod.ext_iff]
    exact ⟨by rw [h.keys _ hk]; exact verdict_seq _ _ i hi', by rw [hv2]; exact ht⟩
  rw [hpair]
  exact h.prov _ (List.getElem_mem hk) hv2

/-! ## the same register, with unbounded packet ids

`pid` is the receiver's full packet-id counter (`InPacketId`, never wraps in the model).  Tags carry full ids, so "the
receiver asked for packet `q` to be acknowledged" is unambiguous and — ids only grow — `false` in the register for `q`
means: not accepted-and-acknowledged, now or ever. -/

structure RInvF (n : Notify) (tg : List (Int × Bool)) (calls : List (Int × Bool)) (pid : Int) : Prop where
  reg : n.inAckSeq = pid % 16384
  hist : n.hist = histOf tg
  /-- bit `k` of the register belongs to packet `pid - k` -/
  keys : ∀ k (hk : k < tg.length), (tg[k]).1 = pid - (k : Int)
  /-- a bit is set **iff** the receiver asked for exactly that packet to be acknowledged -/
  ack : ∀ p ∈ tg, (p.2 = true ↔ (p.1, true) ∈ calls)
  /-- requests are only ever made for the packet just accepted: none concerns a packet beyond the counter -/
  callsLe : ∀ q ∈ calls, q.1 ≤ pid

theorem RInvF.congr {n n' : Notify} {tg calls : List (Int × Bool)} {pid : Int} (h : RInvF n tg calls pid) (h1 : n'.hist = n.hist) (h2 : n'.inAckSeq = n.inAckSeq) :
    RInvF n' tg calls pid :=
  ⟨by rw [h2]; exact h.reg, by rw [h1]; exact h.hist, h.keys, h.ack, h.callsLe⟩

theorem init_rinvF (n : Notify) (i o pid : Int) (hi : i = pid % 16384) : RInvF (n.init i o) [] [] pid := by
  refine ⟨hi, ?_, ?_, ?_, ?_⟩
  · exact histOf_nil.symm
  · intro k hk; simp at hk
  · intro p hp; simp at hp
  · intro q hq; simp at hq

/-- one push moves the register on to packet `pid + 1`; the request list may gain the request for exactly that packet and verdict -/
theorem RInvF.push {n : Notify} {tg calls : List (Int × Bool)} {pid : Int} (h : RInvF n tg calls pid) (b : Bool) (calls' : List (Int × Bool))
    (h1 : ∀ q ∈ calls, q ∈ calls') (h2 : ∀ q ∈ calls', q = (pid + 1, b) ∨ q ∈ calls) (h3 : b = true → (pid + 1, true) ∈ calls') :
    RInvF (n.push b) ((pid + 1, b) :: tg) calls' (pid + 1) := by
  refine ⟨?_, ?_, ?_, ?_, ?_⟩
  · show seq_num_inc n.inAckSeq 1 = (pid + 1) % 16384
    rw [h.reg, Props.C13.inc_eq, Int.emod_add_emod]
  · show pushHist n.hist b = histOf _
    rw [h.hist]; exact pushHist_histOf tg _ _
  · intro k hk
    cases k with
    | zero => simp
    | succ k =>
      simp only [List.getElem_cons_succ]
      rw [h.keys k (by simpa using hk)]; push_cast; omega
  · -- a request in `calls'` for a packet up to `pid` is an old one; one for `pid + 1` is the new one
    intro p hp
    rcases List.mem_cons.mp hp with rfl | hp
    · refine ⟨h3, fun hm => ?_⟩
      rcases h2 _ hm with hm | hm
      · exact (Prod.ext_iff.mp hm).2.symm
      · have := h.callsLe _ hm; simp only at this; omega
    · obtain ⟨k, hk, rfl⟩ := List.getElem_of_mem hp
      rw [h.ack _ hp]
      refine ⟨h1 _, fun hm => ?_⟩
      rcases h2 _ hm with hm | hm
      · have := (Prod.ext_iff.mp hm).1; rw [h.keys k hk] at this; simp only at this; omega
      · exact hm
  · intro q hq
    rcases h2 q hq with rfl | hq
    · exact Int.le_refl _
    · have := h.callsLe q hq; omega

/-- the loop stops as soon as the register has reached `acked` -/
theorem ackSeqLoop_done (fuel : Nat) (n : Notify) (acked : Int) (isAck : Bool) (h : seq_num_greater_than acked n.inAckSeq = false) :
    ackSeqLoop fuel n acked isAck = n := by
  cases fuel with
  | zero => rfl
  | succ fuel => rw [ackSeqLoop_succ, h]; rfl

/-- the loop advances the register from packet `pid` to packet `target` (`0 < target - pid < 8192`), recording `isAck` for
`target` and `false` for every packet in between -/
theorem ackSeqLoop_rinvF (fuel : Nat) : ∀ (n : Notify) (tg calls : List (Int × Bool)) (pid target : Int) (isAck : Bool),
    RInvF n tg calls pid → pid < target → target - pid < 8192 → target - pid ≤ fuel →
    ∃ tg', RInvF (ackSeqLoop fuel n (target % 16384) isAck) tg' ((target, isAck) :: calls) target := by
  induction fuel with
  | zero => intro n tg calls pid target isAck h h1 _ h3; omega
  | succ fuel ih =>
    intro n tg calls pid target isAck h h1 h2 h3
    rw [ackSeqLoop_succ, h.reg, gt_abs target pid ⟨by omega, h2⟩, decide_eq_true h1, if_pos rfl]
    -- `true` can only be recorded at the last turn, for `target`
    have hrep : (seq_num_inc (pid % 16384) 1 == target % 16384) = decide (pid + 1 = target) := by
      rw [Props.C13.inc_eq, Int.emod_add_emod, Bool.eq_iff_iff, beq_iff_eq, decide_eq_true_eq, Int.emod_eq_emod_iff_emod_sub_eq_zero]
      omega
    rw [hrep]
    by_cases hl : pid + 1 = target
    · have hstep := h.push isAck ((target, isAck) :: calls) (fun q hq => List.mem_cons_of_mem _ hq)
        (fun q hq => by rw [hl]; exact List.mem_cons.mp hq) (fun hb => by rw [hl, ← hb]; exact List.mem_cons_self)
      rw [decide_eq_true hl, if_pos rfl, ackSeqLoop_done _ _ _ _ (by rw [hstep.reg, hl]; exact gt_irrefl _)]
      rw [hl] at hstep
      exact ⟨_, hstep⟩
    · have hstep := h.push false calls (fun q hq => hq) (fun q hq => .inr hq) (fun hb => by cases hb)
      rw [decide_eq_false hl, if_neg Bool.false_ne_true]
      exact ih _ _ _ (pid + 1) target isAck hstep (by omega) (by omega) (by omega)

/-- **`packet_notify_ack_seq` for the packet just accepted**: the counter has moved from `pid` to `target` (by less than 2^13) -/
theorem ackSeq_rinvF (n : Notify) (tg calls : List (Int × Bool)) (pid target : Int) (isAck : Bool) (h : RInvF n tg calls pid)
    (h1 : pid < target) (h2 : target - pid < 8192) :
    ∃ tg', RInvF (n.ackSeq target isAck) tg' ((target, isAck) :: calls) target := by
  unfold Notify.ackSeq
  rw [seq_num_init_mod]
  exact ackSeqLoop_rinvF 16384 n tg calls pid target isAck h h1 h2 (by omega)

/-- **what every bit of an acknowledgement header means**, both ways: the verdict the sender derives for position `idx` of the
register is `true` iff the receiver asked for packet `pid - idx` to be acknowledged, and the 14-bit id the sender attaches to
that verdict is that packet's id modulo 2^14 -/
theorem verdicts_exact (n : Notify) (tg calls : List (Int × Bool)) (pid : Int) (w : Nat) (outAck : Int) (h : RInvF n tg calls pid)
    (i : Nat) (hi : i < (seq_num_diff n.inAckSeq outAck).toNat) :
    let idx := (seq_num_diff n.inAckSeq outAck).toNat - 1 - i
    ∀ v, (verdicts outAck (n.headerWith w) (seq_num_diff n.inAckSeq outAck).toNat)[i]? = some v →
    v.1 = (pid - (idx : Int)) % 16384 ∧
    (v.2 = true → (pid - (idx : Int), true) ∈ calls) ∧
    (v.2 = false → idx < 256 → idx < 32 * (min w histWordsMax) → idx < tg.length → (pid - (idx : Int), true) ∉ calls) := by
  intro idx v hvi
  have hseq : seq_num_inc outAck ((i + 1 : Nat) : Int) = (n.inAckSeq - (idx : Int)) % 16384 := verdict_seq n.inAckSeq outAck i hi
  rw [verdicts_getElem? outAck (n.headerWith w) _ i hi, Option.some.injEq] at hvi
  change (_, if idx ≥ histLen then false else (n.headerWith w).hist.getD idx false) = v at hvi
  clear_value idx
  subst hvi
  -- the bit of the register at `idx`, when there is one, is the tag `(pid - idx, requested?)`
  have hbit : ∀ hk : idx < tg.length, ((tg[idx]).2 = true ↔ (pid - (idx : Int), true) ∈ calls) := fun hk => by
    rw [h.ack _ (List.getElem_mem hk), h.keys idx hk]
  refine ⟨?_, ?_, ?_⟩
  · show seq_num_inc outAck _ = _
    rw [hseq, h.reg]
    exact Int.emod_sub_emod ..
  · intro ht
    obtain ⟨_, _, hb⟩ := (headerWith_bit n w idx).mp ht
    rw [h.hist] at hb
    obtain ⟨hk, _, hv2⟩ := (histOf_getD tg idx).mp hb
    exact (hbit hk).mp hv2
  · intro hf h256 hw hk hm
    have hb : n.hist.getD idx false = true := by rw [h.hist]; exact (histOf_getD tg idx).mpr ⟨hk, h256, (hbit hk).mpr hm⟩
    have ht := (headerWith_bit n w idx).mpr ⟨h256, hw, hb⟩
    rw [ht] at hf
    cases hf

end Utcp
