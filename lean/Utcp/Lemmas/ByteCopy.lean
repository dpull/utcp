import Utcp.Lemmas.ByteMem
/-! The main path of the bit-run copier: the accumulator invariant and the byte loop. -/
namespace Utcp.BB

/-- the source bits from byte `S0` on, delayed by `sh` positions: position `t` holds source bit `8 * S0 + t - sh`, the first `sh` positions nothing.
The accumulator of the main copier is a window of this stream; all index arithmetic with the shift is done here, once. -/
def shifted (src : Mem) (S0 sh t : Nat) : Bool := decide (sh ≤ t) && bit src (8 * S0 + (t - sh))

theorem shifted_add (src : Mem) (S0 sh y : Nat) : shifted src S0 sh (sh + y) = bit src (8 * S0 + y) := by
  rw [shifted, decide_eq_true (Nat.le_add_right sh y), Bool.true_and, Nat.add_sub_cancel_left]

theorem shifted_at (src : Mem) (S0 sh M i : Nat) (hi : i < 8) : shifted src S0 sh (8 * M + (sh + i)) = (src.getD (S0 + M) 0).testBit i := by
  rw [Nat.add_left_comm, shifted_add, ← Nat.add_assoc, ← Nat.mul_add, bit_at _ _ _ hi]

theorem shifted_succ (src : Mem) (S0 sh M x : Nat) : shifted src S0 sh (8 * M + (8 + x)) = shifted src S0 sh (8 * (M + 1) + x) := by
  rw [Nat.mul_succ, Nat.add_assoc]

/-- the accumulator of the main copier after the source byte `S0 + M` has been shifted in: its low `sh + 8` bits are the stream from position `8 * M` on -/
def AccOK (src : Mem) (S0 sh M acc : Nat) : Prop :=
  ∀ j, acc.testBit j = (decide (j < sh + 8) && shifted src S0 sh (8 * M + j))

theorem AccOK.at {src : Mem} {S0 sh M acc : Nat} (h : AccOK src S0 sh M acc) (j : Nat) (hj : j < sh + 8) :
    acc.testBit j = shifted src S0 sh (8 * M + j) := by
  rw [h j, decide_eq_true hj, Bool.true_and]

theorem shl_byte_window (src : Mem) (hs : BytesOK src) (S0 sh M j : Nat) :
    (src.getD (S0 + M) 0 <<< sh).testBit j = (decide (sh ≤ j) && (decide (j < sh + 8) && shifted src S0 sh (8 * M + j))) := by
  by_cases h : sh ≤ j
  · obtain ⟨i, rfl⟩ := Nat.exists_eq_add_of_le h
    rw [testBit_shl_add, decide_eq_true h, Bool.true_and]
    by_cases hi : i < 8
    · rw [shifted_at src S0 sh M i hi, decide_eq_true (Nat.add_lt_add_left hi sh), Bool.true_and]
    · rw [testBit_byte_hi _ _ (getD_lt_256 src hs _) (Nat.le_of_not_lt hi), decide_eq_false (fun h => hi (Nat.lt_of_add_lt_add_left h)), Bool.false_and]
  · rw [testBit_shl_lt _ _ _ (Nat.lt_of_not_le h), decide_eq_false h, Bool.false_and]

theorem accOK_init (src : Mem) (hs : BytesOK src) (S0 sh : Nat) : AccOK src S0 sh 0 (src.getD S0 0 <<< sh) := by
  intro j
  have := shl_byte_window src hs S0 sh 0 j
  rw [Nat.add_zero] at this
  rw [this]
  by_cases h : sh ≤ j
  · rw [decide_eq_true h, Bool.true_and]
  · rw [decide_eq_false h, Bool.false_and, shifted, Nat.mul_zero, Nat.zero_add, decide_eq_false h, Bool.false_and, Bool.and_false]

theorem accOK_lt (src : Mem) (S0 sh M acc : Nat) (h : AccOK src S0 sh M acc) : acc < 2 ^ (sh + 8) := by
  apply Nat.lt_pow_two_of_testBit
  intro i hi
  rw [h i, decide_eq_false (Nat.not_lt.mpr hi), Bool.false_and]

/-- the next source byte goes in above the `sh + 8` bits in use, then the low byte is dropped -/
theorem accOK_step (src : Mem) (hs : BytesOK src) (S0 sh M acc : Nat) (h : AccOK src S0 sh M acc) :
    AccOK src S0 sh (M + 1) (((src.getD (S0 + M + 1) 0 <<< (sh + 8)) + acc) >>> 8) := by
  intro j
  rw [Nat.shiftLeft_add_eq_or_of_lt (accOK_lt _ _ _ _ _ h), Nat.testBit_shiftRight, Nat.testBit_or, h (8 + j), shifted_succ,
    Nat.shiftLeft_add, testBit_shl_add, Nat.add_assoc S0 M 1, shl_byte_window src hs S0 sh (M + 1) j]
  have e8 : 8 + j < sh + 8 ↔ j < sh := by rw [Nat.add_comm 8 j]; exact Nat.add_lt_add_iff_right
  by_cases h1 : sh ≤ j
  · rw [decide_eq_true h1, Bool.true_and, decide_eq_false (fun h => Nat.not_lt.mpr h1 (e8.mp h)), Bool.false_and, Bool.or_false]
  · have h2 : j < sh := Nat.lt_of_not_le h1
    rw [decide_eq_false h1, Bool.false_and, Bool.false_or, decide_eq_true (e8.mpr h2), decide_eq_true (Nat.lt_add_right 8 h2)]

/-- `N` rounds of the byte loop store `N` whole bytes, each the low byte of the accumulator after the next source byte went in -/
theorem cpyLoop_spec (src : Mem) (hs : BytesOK src) (S0 sh : Nat) (f : Nat → Bool) :
    ∀ (N : Nat) (cur : Mem) (M di acc : Nat),
      AccOK src S0 sh M acc → BytesOK cur → S0 + M + N < src.length → di + N ≤ cur.length →
      (∀ x, f (8 * di + x) = shifted src S0 sh (8 * (M + 1) + x)) →
      ∃ cur' acc', cpyLoop (N + 1) cur src (S0 + M + 1) di acc (sh + 8) = some (cur', S0 + M + 1 + N, di + N, acc') ∧
        AccOK src S0 sh (M + N) acc' ∧ Upd cur cur' (8 * di) (8 * (di + N)) f := by
  intro N
  induction N with
  | zero =>
    intro cur M di acc ha hc _ _ _
    exact ⟨cur, acc, by simp [cpyLoop], ha, Upd.empty hc (Nat.le_refl _) f⟩
  | succ N ih =>
    intro cur M di acc ha hc hsl hdl hf
    -- one round, then `N` more
    have e (x : Nat) : x + 1 + N = x + (N + 1) := by rw [Nat.add_assoc, Nat.add_comm 1 N]
    have hsl1 : S0 + M + 1 < src.length := by omega
    have hdi : di < cur.length := by omega
    have ha' := accOK_step src hs S0 sh M acc ha
    generalize hacc : ((src.getD (S0 + M + 1) 0 <<< (sh + 8)) + acc) >>> 8 = acc1 at ha'
    obtain ⟨cur1, hw, hu1⟩ := wr_upd cur hc di acc1 0 8 f hdi (Nat.le_refl 8) (fun j hj => by
      rw [if_pos ⟨Nat.zero_le j, hj⟩, hf, ha'.at j (Nat.lt_of_lt_of_le hj (Nat.le_add_left 8 sh))]) rfl (Nat.mul_succ 8 di)
    obtain ⟨cur', acc', hrun, hacc', hu2⟩ := ih cur1 (M + 1) (di + 1) acc1 ha' hu1.2.1 (by rw [← Nat.add_assoc, e]; exact hsl)
      (by rw [hu1.1, e]; exact hdl) (fun x => by rw [Nat.mul_succ, Nat.add_assoc, hf, shifted_succ])
    rw [← Nat.add_assoc S0 M 1] at hrun
    refine ⟨cur', acc', ?_, e M ▸ hacc', hu1.trans (hu2.cast rfl (by rw [e])) (by omega) (by omega)⟩
    rw [cpyLoop, rd_of_lt _ _ hsl1]
    simp only [Option.bind_some, hacc, hw]
    rw [hrun, e, e]

end Utcp.BB
