import Utcp.Lemmas.ByteMem
/-! The short path (`BitCount <= 8`) of the bit-run copier. -/
namespace Utcp.BB

/-- `0xFE << t` inside a byte is `[t + 1, 8)`, its complement `[0, t + 1)` -/
theorem mask254_compl (t j : Nat) (hj : j < 8) : (254 <<< t).testBit j = !decide (0 ≤ j ∧ j < t + 1) := by
  have : (254 : Nat) = (2 ^ 7 - 1) <<< 1 := rfl
  rw [this, ← Nat.shiftLeft_add, Nat.testBit_shiftLeft, Nat.testBit_two_pow_sub_one]
  rw [Nat.add_comm 1 t]
  by_cases h : t + 1 ≤ j
  · have h1 : j - (t + 1) < 7 := by omega
    simp [h, h1, Nat.not_lt.mpr h]
  · simp [h, Nat.lt_of_not_le h]

/-- `(0xFF << d) & ~(0xFE << t)` inside a byte is `[d, t + 1)` -/
theorem maskMid (d t j : Nat) (hj : j < 8) : ((255 <<< d) &&& not32 (254 <<< t)).testBit j = decide (d ≤ j ∧ j < t + 1) := by
  rw [Nat.testBit_and, testBit_not32 _ _ (Nat.lt_trans hj (by decide)), mask255 d j hj, mask254_compl t j hj]
  simp [hj]

theorem last_byte (S0 s n : Nat) (hs8 : s < 8) (hn1 : 1 ≤ n) (hn8 : n ≤ 8) :
    (8 * S0 + s + n - 1) / 8 = if s + n ≤ 8 then S0 else S0 + 1 := by
  split <;> omega

/-- the accumulator of the short path holds the `n` source bits, lowest first; `last` is the byte of the last of them -/
theorem smallAccu (src : Mem) (hsk : BytesOK src) (S0 s n last : Nat) (hs8 : s < 8) (hn8 : n ≤ 8) (hlast : last = if s + n ≤ 8 then S0 else S0 + 1)
    (hsl : 8 * S0 + s + n ≤ 8 * src.length) (hn1 : 1 ≤ n) :
    ∃ accu, (if S0 = last then (rd src S0).bind fun a => some (a >>> s)
      else (rd src S0).bind fun a => (rd src last).bind fun b => some ((a >>> s) ||| (b <<< (8 - s)))) = some accu ∧
      ∀ i, i < n → accu.testBit i = bit src (8 * S0 + s + i) := by
  have r0 : rd src S0 = some (src.getD S0 0) := rd_of_lt _ _ (by omega)
  by_cases h : s + n ≤ 8
  · rw [if_pos h] at hlast
    refine ⟨_, by rw [if_pos hlast.symm, r0]; rfl, fun i hi => ?_⟩
    rw [Nat.testBit_shiftRight, Nat.add_assoc, bit_at src S0 (s + i) (by omega)]
  · rw [if_neg h] at hlast
    -- more than eight bits from the start of byte `S0` on: the run reaches into byte `S0 + 1`
    have r1 : rd src (S0 + 1) = some (src.getD (S0 + 1) 0) := rd_of_lt _ _ (by omega)
    refine ⟨_, by rw [hlast, if_neg (Nat.ne_of_lt (Nat.lt_succ_self S0)), r0, r1]; rfl, fun i hi => ?_⟩
    rw [Nat.add_assoc, testBit_window src hsk S0 s i hs8 (Nat.lt_of_lt_of_le hi hn8)]

theorem cpySmall_core (dest src : Mem) (hdk : BytesOK dest) (hsk : BytesOK src) (D0 d S0 s n : Nat)
    (hd8 : d < 8) (hs8 : s < 8) (hn1 : 1 ≤ n) (hn8 : n ≤ 8)
    (hdl : 8 * D0 + d + n ≤ 8 * dest.length) (hsl : 8 * S0 + s + n ≤ 8 * src.length) :
    ∃ dest', cpySmall dest (8 * D0 + d) src (8 * S0 + s) n = some dest' ∧
      Upd dest dest' (8 * D0 + d) (8 * D0 + d + n) (srcAt src (8 * S0 + s) (8 * D0 + d)) := by
  obtain ⟨accu, haccu, hbits⟩ := smallAccu src hsk S0 s n _ hs8 hn8 (last_byte S0 s n hs8 hn1 hn8) hsl hn1
  have hdn : 0 < d + n := Nat.lt_of_lt_of_le hn1 (Nat.le_add_left n d)
  have hD : D0 < dest.length := byte_lt_of_bits_le hdn (Nat.add_assoc .. ▸ hdl)
  -- `t`: the offset of the last bit, counted from the start of byte `D0`
  obtain ⟨t, ht⟩ : ∃ t, d + n = t + 1 := Nat.exists_eq_succ_of_ne_zero (Nat.ne_of_gt hdn)
  have hend : 8 * D0 + (t + 1) = 8 * D0 + d + n := by rw [Nat.add_assoc, ht]
  have e : 8 * D0 + d + n - 1 = 8 * D0 + t := by rw [← hend]; rfl
  unfold cpySmall
  simp only [div8 D0 d hd8, mod8 D0 d hd8, div8 S0 s hs8, mod8 S0 s hs8, e]
  rw [haccu]
  simp only [Option.bind_some, rd_of_lt dest D0 hD]
  -- the low part of the accumulator, shifted to the cursor, is what belongs into byte `D0`
  have hlo : ∀ j, d ≤ j → j < t + 1 → (accu <<< d).testBit j = srcAt src (8 * S0 + s) (8 * D0 + d) (8 * D0 + j) := by
    intro j h1 h2
    obtain ⟨i, rfl⟩ := Nat.exists_eq_add_of_le h1
    rw [testBit_shl_add, hbits i (Nat.lt_of_add_lt_add_left (ht ▸ h2)), ← Nat.add_assoc, srcAt_add]
  by_cases h : t < 8
  · rw [div8 _ _ h, mod8 _ _ h, if_pos rfl]
    exact wr_masked dest hdk D0 (accu <<< d) _ d (t + 1) _ (srcAt src (8 * S0 + s) (8 * D0 + d)) hD h (Nat.or_comm _ _)
      (maskMid d t) hlo rfl hend.symm
  · obtain ⟨t', rfl⟩ := Nat.exists_eq_add_of_le (Nat.le_of_not_lt h)
    have ht' : t' < 8 := by omega
    have h8 : 8 ≤ 8 + t' + 1 := Nat.le_trans (Nat.le_add_right 8 t') (Nat.le_succ _)
    have hend' : 8 * D0 + d + n = 8 * (D0 + 1) + (t' + 1) := by rw [← hend, Nat.mul_succ, Nat.add_assoc 8, Nat.add_assoc]
    rw [show 8 * D0 + (8 + t') = 8 * (D0 + 1) + t' by rw [Nat.mul_succ, Nat.add_assoc], div8 _ _ ht', mod8 _ _ ht',
      if_neg (Nat.ne_of_lt (Nat.lt_succ_self D0))]
    obtain ⟨m1, hw1, hu1⟩ := wr_masked dest hdk D0 (accu <<< d) _ d 8 _ (srcAt src (8 * S0 + s) (8 * D0 + d)) hD (Nat.le_refl 8) (Nat.or_comm _ _)
      (mask255 d) (fun j h1 h2 => hlo j h1 (Nat.lt_of_lt_of_le h2 h8)) rfl rfl
    have hD1 : D0 + 1 < m1.length := by rw [hu1.1]; exact byte_lt_of_bits_le (Nat.succ_pos t') (hend' ▸ hdl)
    rw [hw1]
    simp only [Option.bind_some, rd_of_lt m1 (D0 + 1) hD1]
    -- the rest of the accumulator goes to the bottom of byte `D0 + 1`
    obtain ⟨m2, hw2, hu2⟩ := wr_masked_compl m1 hu1.2.1 (D0 + 1) (accu >>> (8 - d)) _ 0 (t' + 1) _ (srcAt src (8 * S0 + s) (8 * D0 + d)) hD1 ht' rfl
      (mask254_compl t') (fun j _ h2 => by
        -- bit `j` of byte `D0 + 1` is bit `8 - d + j` of the run, and `d + (8 - d + j) = 8 + j < 8 + (t' + 1) = d + n`
        have hj : 8 - d + j < n := by omega
        rw [Nat.testBit_shiftRight, hbits _ hj, next_byte_pos D0 d j hd8, srcAt_add])
      (Nat.mul_succ 8 D0).symm hend'
    exact ⟨m2, hw2, hu1.trans hu2 (by omega) (by omega)⟩

end Utcp.BB
