import Utcp.Handshake
import Utcp.Lemmas.BitIO
import Utcp.Lemmas.Frame
/-!
# The handshake datagram codec: what `hsPacket` + `CapHandshakePacket` write, `bitbuf_read_init` + `read_packet_header` +
`ParseHandshakePacket` read back — for every field value, every magic configuration and every padding length the
random stream can choose.
-/
namespace Utcp
open Gen

/-- the part of a latest-version handshake datagram after the outgoing header -/
def hsBody (restart : Bool) (ptype cnt netVer : Nat) (sid : Bool) (ts : UInt64) (cookie : List UInt8) : Bits :=
  [restart] ++ (writeByte 1 ++ (writeByte 3 ++ (writeByte ptype ++ (writeByte cnt ++ (writeU32 netVer ++ ([sid] ++ (writeU64 ts.toNat ++ bytesBits cookie)))))))

theorem hsBody_length (restart : Bool) (ptype cnt netVer : Nat) (sid : Bool) (ts : UInt64) (cookie : List UInt8) (hc : cookie.length = 20) :
    (hsBody restart ptype cnt netVer sid ts cookie).length = 290 := by
  simp [hsBody, writeByte, writeU32, writeU64, bytesBits, bytesToBits_length, hc]

theorem hsPacket_eq (e : Env) (session client : Nat) (restart : Bool) (ptype cnt netVer : Nat) (sid : Bool) (ts : UInt64) (cookie : List UInt8) :
    hsPacket e 3 session client restart ptype cnt netVer sid ts cookie []
      = hsOutgoingHeader e 3 session client true ++ hsBody restart ptype cnt netVer sid ts cookie := by
  simp [hsPacket, hsBody, bytesBits, bytesToBits]

/-- the initial packet is the common layout with a zero timestamp and a zero cookie -/
theorem initial_eq (e : Env) (client : Nat) (restart : Bool) (cnt netVer : Nat) :
    hsOutgoingHeader e 3 0 client true ++ [restart]
      ++ (if 3 ≥ 1 then writeByte 1 ++ writeByte 3 ++ writeByte ptInitial ++ writeByte cnt else [])
      ++ (if 3 ≥ 2 then writeU32 netVer else [])
      ++ [false] ++ List.replicate 224 false
    = hsOutgoingHeader e 3 0 client true ++ hsBody restart ptInitial cnt netVer false 0 (List.replicate 20 0) := by
  rw [hsBody, bytesBits, bytesToBits_replicate_zero, writeU64, UInt64.toNat_zero, natToBits_zero, List.replicate_append_replicate,
    if_pos (by decide), if_pos (by decide)]
  simp only [List.append_assoc]

/-- the padding length `CapHandshakePacket` draws: between 9 and 16 bytes -/
def capLen (rng : Rng) : Nat := 16 - (lcgNext rng.lib) % 8

theorem capLen_range (rng : Rng) : 9 ≤ capLen rng ∧ capLen rng ≤ 16 := by unfold capLen; omega

theorem cap3 (e : Env) (rng : Rng) (bits : Bits) :
    (capHandshake e rng 3 bits).2 = bits ++ List.replicate (8 * capLen rng) false ++ [true] := by
  simp [capHandshake, capLen, Rng.nextLib]

theorem readHeader_hs (e : Env) (s cl : Nat) (h : Bool) (rest : Bits) (hm : e.magic < 2 ^ e.magicBits) :
    readOutgoingHeader e (hsOutgoingHeader e 3 s cl h ++ rest) = .ok (s % 4, cl % 8, h) rest := by
  unfold readOutgoingHeader hsOutgoingHeader
  simp only [ge_iff_le, Nat.le_refl, if_true, List.append_assoc]
  rw [readBits_append' e.magicBits (natToBits e.magic e.magicBits) _ (natToBits_length _ _)]
  have hmag : (e.magicBits != 0 && bitsToNat (natToBits e.magic e.magicBits) != e.magic) = false := by
    rw [bitsToNat_natToBits, Nat.mod_eq_of_lt hm]; simp
  simp only [hmag, Bool.false_eq_true, if_false]
  rw [readBits_append' 2 (natToBits s 2) _ (natToBits_length _ _)]
  simp only
  rw [readBits_append' 3 (natToBits cl 3) _ (natToBits_length _ _)]
  simp only [List.cons_append, List.nil_append, readBit_cons, bitsToNat_natToBits]

/-- `ParseHandshakePacket` reads back every field of a challenge / response / ack / initial packet, whatever the padding
length in the range `CapHandshakePacket` uses -/
theorem parse_hsBody (restart : Bool) (ptype cnt netVer : Nat) (sid : Bool) (ts : UInt64) (cookie : List UInt8) (k : Nat)
    (hc : cookie.length = 20) (hp : ptype ≤ 3) (hcnt : cnt < 256) (hnet : netVer < 4294967296) (hk1 : 9 ≤ k) (hk2 : k ≤ 16) :
    parseHandshake (hsBody restart ptype cnt netVer sid ts cookie ++ List.replicate (8 * k) false)
      = some { restart := restart, minVer := 1, curVer := 3, netVer := netVer, ptype := ptype, sentCount := cnt, secretId := sid,
               ts := ts, cookie := cookie, origCookie := List.replicate 20 0 } := by
  have hlen : (hsBody restart ptype cnt netVer sid ts cookie ++ List.replicate (8 * k) false).length = 290 + 8 * k := by
    rw [List.length_append, hsBody_length _ _ _ _ _ _ _ hc, List.length_replicate]
  have hHs : decide (((290 + 8 * k : Nat) : Int) - (Gen.VerRandomizedHandshakePacketSizeBits - 1) ≥ (Gen.BaseRandomDataLengthBytes - Gen.RandomDataLengthVarianceBytes) * 8 ∧
      ((290 + 8 * k : Nat) : Int) - (Gen.HANDSHAKE_PACKET_SIZE_BITS - 1) ≤ Gen.BaseRandomDataLengthBytes * 8) = true := by
    apply decide_eq_true
    simp only [Gen.VerRandomizedHandshakePacketSizeBits, Gen.BaseRandomDataLengthBytes, Gen.RandomDataLengthVarianceBytes,
      Gen.HANDSHAKE_PACKET_SIZE_BITS]
    omega
  have hRR : decide (((290 + 8 * k : Nat) : Int) - (Gen.VerRandomizedRestartResponseSizeBits - 1) ≥ (Gen.BaseRandomDataLengthBytes - Gen.RandomDataLengthVarianceBytes) * 8 ∧
      ((290 + 8 * k : Nat) : Int) - (Gen.RESTART_RESPONSE_SIZE_BITS - 1) ≤ Gen.BaseRandomDataLengthBytes * 8) = false := by
    apply decide_eq_false
    simp only [Gen.VerRandomizedRestartResponseSizeBits, Gen.BaseRandomDataLengthBytes, Gen.RandomDataLengthVarianceBytes,
      Gen.RESTART_RESPONSE_SIZE_BITS]
    omega
  have hts : UInt64.ofNat (bitsToNat (writeU64 ts.toNat)) = ts := by
    unfold writeU64
    rw [bitsToNat_natToBits, Nat.mod_eq_of_lt ts.toNat_lt]
    simp
  have hck : bitsBytes (bytesBits cookie) = cookie := bitsToBytes_bytesToBits cookie
  unfold parseHandshake
  rw [hlen]
  -- one call: every pass over the unfolded parser is dear
  simp only [hHs, hRR, hsBody, List.append_assoc, List.cons_append, List.nil_append, readBit_cons, readByte_write,
    show (3 % 256 ≥ 2) from by decide, if_true, readU32_write, Nat.mod_eq_of_lt (show ptype < 256 by omega), decide_eq_true hp,
    Bool.and_self, Bool.false_and, Bool.or_false,
    readBits_append' 64 (writeU64 ts.toNat) _ (natToBits_length _ _),
    readBits_append' 160 (bytesBits cookie) _ (by rw [bytesBits, bytesToBits_length, hc]),
    Bool.false_eq_true, if_false, hts, hck, Nat.mod_eq_of_lt hcnt, Nat.mod_eq_of_lt hnet]

/-- **the handshake wire round trip**: the datagram the sender emits for a latest-version handshake packet is, for the receiver, a
well-terminated datagram with the handshake bit set that parses to exactly the fields written -/
theorem hs_wire (e : Env) (rng : Rng) (session client : Nat) (restart : Bool) (ptype cnt netVer : Nat) (sid : Bool) (ts : UInt64)
    (cookie : List UInt8) (hm : e.magic < 2 ^ e.magicBits)
    (hc : cookie.length = 20) (hp : ptype ≤ 3) (hcnt : cnt < 256) (hnet : netVer < 4294967296) :
    ∃ bits rest,
      readInit (bitsBytes (capHandshake e rng 3 (hsPacket e 3 session client restart ptype cnt netVer sid ts cookie [])).2) = some bits ∧
      readOutgoingHeader e bits = .ok (session % 4, client % 8, true) rest ∧
      parseHandshake rest = some { restart := restart, minVer := 1, curVer := 3, netVer := netVer, ptype := ptype, sentCount := cnt,
                                   secretId := sid, ts := ts, cookie := cookie, origCookie := List.replicate 20 0 } := by
  rw [cap3, hsPacket_eq]
  refine ⟨_, hsBody restart ptype cnt netVer sid ts cookie ++ List.replicate (8 * capLen rng) false, readInit_bitsToBytes _, ?_, ?_⟩
  · rw [List.append_assoc]
    exact readHeader_hs e session client true _ hm
  · exact parse_hsBody restart ptype cnt netVer sid ts cookie (capLen rng) hc hp hcnt hnet (capLen_range rng).1 (capLen_range rng).2

end Utcp
