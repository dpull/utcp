import Utcp.Props.C13
import Utcp.Lemmas.SendInv
import Utcp.Lemmas.Origin
import Utcp.Lemmas.OutSeq
/-!
# What a sender puts on the wire (sender side)

`seen b`: what of a bunch is transmitted and shown to the receiving application, sequence numbers aside.  `SentQ sent q`: `q` looks like
one of the bunches in `sent`.  `GoodBody sent bits`: `bits` is a concatenation of encodings of well-formed bunches each of which looks
like a bunch in `sent`.  `EInv sent c`: the send buffer and every retransmission record of `c` are good bodies.  Every function of the
library keeps `EInv` (a send adds the new bunch to `sent`), and every datagram emitted carries a good body.
-/
namespace Utcp
open Gen

/-- the fields of a bunch that travel and are handed to the peer's application (the encoder ignores the rest) -/
def seen (b : Bunch) : Bunch :=
  { b with closeReason := if b.bClose then b.closeReason else 0,
           bPartialInitial := b.bPartial && b.bPartialInitial, bPartialFinal := b.bPartial && b.bPartialFinal,
           nameIndex := if b.bReliable || b.bOpen then b.nameIndex % 2 ^ 32 else 0, chSeq := 0, packetId := 0 }

/-- the same bunch with the ignored fields cleared: what the encoder effectively writes (sequence kept) -/
def nrm (b : Bunch) : Bunch :=
  { b with closeReason := if b.bClose then b.closeReason else 0,
           bPartialInitial := b.bPartial && b.bPartialInitial, bPartialFinal := b.bPartial && b.bPartialFinal,
           nameIndex := if b.bReliable || b.bOpen then b.nameIndex % 2 ^ 32 else 0,
           chSeq := if b.bReliable then b.chSeq else 0 }

/-- clearing an ignored field twice is clearing it once; `seen` drops what `wireView` changes -/
theorem seen_wireView_nrm (b : Bunch) : seen (wireView (nrm b)) = seen b := by
  simp only [seen, wireView, nrm, Bool.and_self_left]
  congr 1
  · split <;> simp [*]
  · split <;> simp [*]

theorem hdrBits_nrm (b : Bunch) : hdrBits (nrm b) = hdrBits b := by
  simp only [hdrBits, nrm, writeCtl_reason, writeSeq_off, writePartialFlags_off, writeName_off]

theorem encodeBunchHeader_nrm (b : Bunch) : encodeBunchHeader (nrm b) = encodeBunchHeader b := by
  rw [encodeBunchHeader_eq, encodeBunchHeader_eq, hdrBits_nrm]
  cases hc : b.bClose <;> simp [nrm, hc]

theorem encB_nrm (b : Bunch) : encB (nrm b) = encB b := by
  unfold encB encodeBunch
  rw [encodeBunchHeader_nrm]
  rfl

theorem encB_nrm_of_header {b : Bunch} {hdr : Bits} (hh : encodeBunchHeader b = some hdr) : encB (nrm b) = hdr ++ b.data := by
  rw [encB_nrm]
  unfold encB encodeBunch
  rw [hh]; rfl

theorem wf_nrm (b : Bunch) (hr : b.bClose = true → b.closeReason < 15) (hch : b.chIndex < 65536) (hlen : b.data.length < 8192) : WFBunch (nrm b) := by
  unfold nrm
  refine ⟨?_, hch, ?_, ?_, ?_, ?_, hlen, ?_⟩
  · simp only
    cases hc : b.bClose
    · simp
    · simp; exact hr hc
  · intro hp; simp only at hp ⊢; simp [hp]
  · intro hp; simp only at hp ⊢; simp [hp]
  · simp only; split
    · exact Nat.mod_lt _ (by decide)
    · decide
  · intro h1 h2; simp only at h1 h2 ⊢; simp [h1, h2]
  · intro h1; simp only at h1 ⊢; simp [h1]

/-- `q` looks like a bunch in `sent` — and, if reliable, carries that bunch's channel sequence number modulo 1024 (the elements of `sent`
carry the sequence number the sender assigned) -/
def SentQ (sent : List Bunch) (q : Bunch) : Prop := ∃ b ∈ sent, seen q = seen b ∧ (q.bReliable = true → q.chSeq % 1024 = b.chSeq % 1024)

theorem makeRelative_residue (v r : Int) : MakeRelative_chseq v r % 1024 = v % 1024 :=
  Int.emod_eq_emod_iff_emod_sub_eq_zero.2 (Props.C13.makeRelative_spec v r).1

theorem sentQ_stable (sent : List Bunch) : QStable (SentQ sent) := by
  refine ⟨?_, ?_, ?_⟩
  · intro b ref hr ⟨x, hx, he, hs⟩
    refine ⟨x, hx, by rw [← he]; rfl, fun _ => ?_⟩
    show MakeRelative_chseq b.chSeq ref % 1024 = x.chSeq % 1024
    rw [makeRelative_residue]; exact hs hr
  · intro b s hr ⟨x, hx, he, _⟩
    exact ⟨x, hx, by rw [← he]; rfl, fun h => by simp only [hr] at h; cases h⟩
  · intro b p ⟨x, hx, he, hs⟩
    exact ⟨x, hx, by rw [← he]; rfl, hs⟩

theorem SentQ.mono {sent sent' : List Bunch} {q : Bunch} (h : SentQ sent q) (hs : ∀ b ∈ sent, b ∈ sent') : SentQ sent' q := by
  obtain ⟨b, hb, he⟩ := h; exact ⟨b, hs b hb, he⟩

def GoodBody (sent : List Bunch) (bits : Bits) : Prop := ∃ bs, bits = bodyOf bs ∧ ∀ b ∈ bs, WFBunch b ∧ SentQ sent (wireView b)

theorem GoodBody.nil (sent : List Bunch) : GoodBody sent [] := ⟨[], rfl, by intro b hb; simp at hb⟩

theorem GoodBody.append {sent : List Bunch} {a b : Bits} (ha : GoodBody sent a) (hb : GoodBody sent b) : GoodBody sent (a ++ b) := by
  obtain ⟨as, rfl, h1⟩ := ha
  obtain ⟨bs, rfl, h2⟩ := hb
  refine ⟨as ++ bs, by simp [bodyOf], ?_⟩
  intro x hx
  rcases List.mem_append.mp hx with hx | hx
  · exact h1 x hx
  · exact h2 x hx

theorem GoodBody.mono {sent sent' : List Bunch} {bits : Bits} (h : GoodBody sent bits) (hs : ∀ b ∈ sent, b ∈ sent') : GoodBody sent' bits := by
  obtain ⟨bs, hb, hall⟩ := h
  exact ⟨bs, hb, fun b hb' => ⟨(hall b hb').1, (hall b hb').2.mono hs⟩⟩

/-- a datagram of the data path carries a good body behind its two headers -/
def EP (mb mg : Nat) (sent : List Bunch) (ev : Event) : Prop :=
  ∀ d, ev = .out d → ∃ (e : Env) (s cl : Nat) (hh : NotifHeader) (body : Bits), (e.magicBits = mb ∧ e.magic = mg) ∧ Props.C11.WFHeader hh ∧
    d = bitsToBytes (outgoingHeader e s cl false ++ encodeNotifHeader hh ++ body ++ [true, true]) ∧ GoodBody sent body

theorem eP_of_not_out (mb mg : Nat) (sent : List Bunch) (ev : Event) (h : ∀ d, ev ≠ .out d) : EP mb mg sent ev := fun d hd => absurd hd (h d)

theorem EP.mono {mb mg : Nat} {sent sent' : List Bunch} {ev : Event} (h : EP mb mg sent ev) (hs : ∀ b ∈ sent, b ∈ sent') : EP mb mg sent' ev := by
  intro d hd
  obtain ⟨e, s, cl, N, body, hm, h0, h1, h2⟩ := h d hd
  exact ⟨e, s, cl, N, body, hm, h0, h1, h2.mono hs⟩

abbrev GoodN (sent : List Bunch) : OutNode → Prop := fun n => GoodBody sent n.bits

/-- what makes the packet header of the next datagram a well-formed header encoding -/
structure HInv (c : Conn) : Prop where
  hist : c.notify.hist.length = 256
  seqs : (0 ≤ c.notify.outSeq ∧ c.notify.outSeq < 16384) ∧ (0 ≤ c.notify.inAckSeq ∧ c.notify.inAckSeq < 16384)
  enc : c.sendActive = true → ∃ h, Props.C11.WFHeader h ∧ c.sendNotif = encodeNotifHeader h ∧ h.words = c.notify.writtenWords

theorem HInv.same {c c' : Conn} (h : HInv c) (h1 : c'.notify = c.notify) (h2 : c'.sendActive = c.sendActive) (h3 : c'.sendNotif = c.sendNotif) : HInv c' :=
  ⟨by rw [h1]; exact h.hist, by rw [h1]; exact h.seqs, fun ha => by rw [h3, h1]; exact h.enc (by rw [← h2]; exact ha)⟩

theorem HInv.notify' {c : Conn} (h : HInv c) (n : Notify) (h1 : n.hist.length = 256) (h2 : n.writtenWords = c.notify.writtenWords)
    (h3 : n.outSeq = c.notify.outSeq) (h4 : 0 ≤ n.inAckSeq ∧ n.inAckSeq < 16384) : HInv { c with notify := n } :=
  ⟨h1, ⟨by show 0 ≤ n.outSeq ∧ n.outSeq < 16384; rw [h3]; exact h.seqs.1, h4⟩, fun ha => by
    obtain ⟨hh, w1, w2, w3⟩ := h.enc ha
    exact ⟨hh, w1, w2, by show hh.words = n.writtenWords; rw [h2]; exact w3⟩⟩

theorem HInv.notify {c : Conn} (h : HInv c) (n : Notify) (h1 : n.hist = c.notify.hist) (h2 : n.writtenWords = c.notify.writtenWords)
    (h3 : n.outSeq = c.notify.outSeq) (h4 : n.inAckSeq = c.notify.inAckSeq) : HInv { c with notify := n } :=
  h.notify' n (by rw [h1]; exact h.hist) h2 h3 (by rw [h4]; exact h.seqs.2)

theorem finalHeader_wf (c : Conn) (h : HInv c) (ha : c.sendActive = true) : ∃ hh, Props.C11.WFHeader hh ∧ c.finalHeader.2 = encodeNotifHeader hh := by
  obtain ⟨h0, w1, w2, w3⟩ := h.enc ha
  unfold Conn.finalHeader Notify.fillRefresh
  split
  · rename_i n hd heq
    split at heq
    · simp at heq
    · simp at heq
      obtain ⟨_, rfl⟩ := heq
      refine ⟨_, ⟨h.seqs.1, h.seqs.2, by rw [← w3]; exact w1.words, ?_⟩, rfl⟩
      have hw8 : c.notify.writtenWords ≤ 8 := by rw [← w3]; exact w1.words.2
      exact Size.headerWith_hist_length _ _ h.hist hw8
  · exact ⟨h0, w1, w2⟩

theorem startPacket_hinv (c : Conn) (h : HInv c) : HInv c.startPacket :=
  ⟨h.hist, h.seqs, fun _ => ⟨_, headerWith_curWords_wf c.notify h.hist h.seqs, rfl, rfl⟩⟩

theorem flushNow_hinv (e : Env) (c : Conn) (h : HInv c) : HInv (c.flushNow e) := by
  obtain ⟨r, w, hn⟩ := flushNow_notify e c
  refine ⟨?_, ?_, fun hx => absurd hx (by simp)⟩ <;> rw [hn]
  · exact h.hist
  · exact ⟨seq_num_inc_range _ _, h.seqs.2⟩

structure EInv (sent : List Bunch) (c : Conn) : Prop where
  body : GoodBody sent c.sendBody
  recs : AllOKP (GoodN sent) c
  hdr : HInv c

theorem EInv.mono {sent sent' : List Bunch} {c : Conn} (h : EInv sent c) (hs : ∀ b ∈ sent, b ∈ sent') : EInv sent' c :=
  ⟨h.body.mono hs, fun p hp n hn => (h.recs p hp n hn).mono hs, h.hdr⟩

theorem EInv.of_fields {sent : List Bunch} {c c' : Conn} (h : EInv sent c) (h1 : c'.sendBody = c.sendBody) (h2 : AllOKP (GoodN sent) c') (h3 : HInv c') : EInv sent c' :=
  ⟨by rw [h1]; exact h.body, h2, h3⟩

theorem startPacket_einv (sent : List Bunch) (c : Conn) (h : EInv sent c) : EInv sent c.startPacket :=
  ⟨GoodBody.nil _, h.recs.of_chans rfl, startPacket_hinv c h.hdr⟩

theorem flushNow_einv {mb mg : Nat} (sent : List Bunch) (e : Env) (he : e.magicBits = mb ∧ e.magic = mg) (c : Conn) (h : EInv sent c) (ha : c.sendActive = true) :
    EInv sent (c.flushNow e) ∧ Adds (EP mb mg sent) c (c.flushNow e) := by
  refine ⟨⟨GoodBody.nil _, h.recs.of_chans rfl, flushNow_hinv e c h.hdr⟩, [.out (bitsToBytes (c.packetBits e))], rfl, ?_⟩
  intro ev hev
  simp only [List.mem_singleton] at hev
  subst hev
  intro d hd
  cases hd
  obtain ⟨hh, wf, hN⟩ := finalHeader_wf c h.hdr ha
  refine ⟨e, c.lastSessionId, c.lastClientId, hh, c.sendBody, he, wf, ?_, h.body⟩
  unfold Conn.packetBits; rw [hN]

theorem flush_einv {mb mg : Nat} (sent : List Bunch) (e : Env) (he : e.magicBits = mb ∧ e.magic = mg) (c : Conn) : Pres (EInv sent) (EP mb mg sent) c (c.flush e) :=
  flush_closed Pres.refl Pres.trans (fun c h => ⟨startPacket_einv sent c h, startPacket_adds _ c⟩) (fun c ha h => flushNow_einv sent e he c h ha) c

theorem writeBits_einv {mb mg : Nat} (sent : List Bunch) (e : Env) (he : e.magicBits = mb ∧ e.magic = mg) (c : Conn) (bits : Bits) (hb : GoodBody sent bits) :
    Pres (EInv sent) (EP mb mg sent) c (c.writeBits e bits).1 :=
  writeBits_closed Pres.refl Pres.trans (fun c h => ⟨startPacket_einv sent c h, startPacket_adds _ c⟩) (fun c ha h => flushNow_einv sent e he c h ha) bits
    (fun _ h => ⟨⟨h.body.append hb, h.recs.of_chans rfl, h.hdr.same rfl rfl rfl⟩, Adds.of_log_eq rfl⟩) c

theorem einv_side {mb mg : Nat} (sent : List Bunch) (e : Env) (he : e.magicBits = mb ∧ e.magic = mg) :
    SendSide e (GoodBody sent) (GoodBody sent) (EInv sent) (EP mb mg sent) where
  flush c := flush_einv sent e he c
  writeBits c bits hb := writeBits_einv sent e he c bits hb
  recs _ h := h.recs
  resend _ h := h
  frame _ _ h h1 h2 h3 h4 _ h6 := ⟨by rw [h4]; exact h.body, h6, h.hdr.same h1 h2 h3⟩
  notify _ n h h2 h3 hl hi := ⟨h.body, h.recs.of_chans rfl, h.hdr.notify' n (hl h.hdr.hist) h2 h3 (hi h.hdr.seqs.2)⟩
  noOut := eP_of_not_out mb mg sent

theorem header_some_of_zero (b : Bunch) (s : Int) (h0 : Bits) (h : encodeBunchHeader { b with chSeq := 0 } = some h0) :
    (∃ hh, encodeBunchHeader { b with chSeq := s } = some hh) ∧ (b.bClose = true → b.closeReason < 15) := by
  have hr := ((encodeBunchHeader_eq_some_iff _ _).1 h).1
  exact ⟨⟨_, (encodeBunchHeader_eq_some_iff { b with chSeq := s } _).2 ⟨hr, rfl⟩⟩, hr⟩

theorem sent_bits_good (sent : List Bunch) (b : Bunch) (s : Int) (hdr : Bits)
    (hh : encodeBunchHeader { b with chSeq := s } = some hdr) (hch : b.chIndex < 65536) (hlen : b.data.length < 8192) :
    GoodBody ({ b with chSeq := s } :: sent) (hdr ++ b.data) := by
  have hcr : b.bClose = true → b.closeReason < 15 := ((encodeBunchHeader_eq_some_iff _ _).1 hh).1
  refine ⟨[nrm { b with chSeq := s }], ?_, ?_⟩
  · rw [bodyOf_cons, encB_nrm_of_header hh]; exact (List.append_nil _).symm
  · intro x hx
    rw [List.mem_singleton.mp hx]
    refine ⟨wf_nrm _ hcr hch hlen, { b with chSeq := s }, List.mem_cons_self, seen_wireView_nrm _, fun hr => ?_⟩
    -- a reliable bunch travels with its sequence number modulo 1024
    show (if b.bReliable = true then s else 0) % 1024 % 1024 = s % 1024
    rw [if_pos (show b.bReliable = true from hr)]
    exact Int.emod_emod _ _

/-- the bunches accepted so far, as the sender numbered them: `utcp_send_bunch` adds `b` if (and only if) it accepts it -/
def Conn.sentAfter (c : Conn) (b : Bunch) (sent : List Bunch) : List Bunch :=
  match c.sendCheck b with
  | .inl _ => sent
  | .inr _ => c.tagged b :: sent

theorem sentAfter_refused {c : Conn} {b : Bunch} {err : Int} (h : c.sendCheck b = .inl err) (sent : List Bunch) : c.sentAfter b sent = sent := by
  unfold Conn.sentAfter; rw [h]

theorem sentAfter_accepted {c : Conn} {b : Bunch} {h0 : Bits} (h : c.sendCheck b = .inr h0) (sent : List Bunch) :
    c.sentAfter b sent = c.tagged b :: sent := by
  unfold Conn.sentAfter; rw [h]

theorem sentAfter_mono (c : Conn) (b : Bunch) (sent : List Bunch) : ∀ x ∈ sent, x ∈ c.sentAfter b sent := by
  intro x hx
  cases hchk : c.sendCheck b with
  | inl err => rw [sentAfter_refused hchk]; exact hx
  | inr h0 => rw [sentAfter_accepted hchk]; exact List.mem_cons_of_mem _ hx

theorem sendBunch_einv {mb mg : Nat} (sent : List Bunch) (e : Env) (he : e.magicBits = mb ∧ e.magic = mg) (c : Conn) (b : Bunch) (h : EInv sent c) :
    EInv (c.sentAfter b sent) (c.sendBunch e b).1 ∧ Adds (EP mb mg (c.sentAfter b sent)) c (c.sendBunch e b).1 := by
  refine (einv_side (c.sentAfter b sent) e he).sendBunch c b ?_ (h.mono (sentAfter_mono c b sent))
  intro h0 x hchk hx
  obtain ⟨hchi, _, henc, hfit⟩ := sendCheck_cases hchk
  have hch : b.chIndex < 65536 := Nat.lt_trans hchi (by decide)
  have hlen : b.data.length < 8192 := by omega
  obtain ⟨_, x', hx', hxo⟩ := sendCommit_chan c b h0 hchk
  have hxo' : x.outReliable = c.outRelOf b.chIndex := by rw [hx'] at hx; rw [← Option.some.inj hx]; exact hxo
  rw [sentAfter_accepted hchk]
  refine ⟨fun hr => ?_, fun hr => ?_⟩
  · obtain ⟨⟨hh, hhe⟩, _⟩ := header_some_of_zero b (x.outReliable + 1) h0 henc
    rw [hhe, Option.getD_some, show c.tagged b = { b with chSeq := x.outReliable + 1 } by unfold Conn.tagged Conn.nextSeq; rw [hxo', if_pos hr]]
    exact sent_bits_good sent b _ hh hhe hch hlen
  · rw [show c.tagged b = { b with chSeq := 0 } by unfold Conn.tagged Conn.nextSeq; simp [hr]]
    exact sent_bits_good sent b 0 h0 henc hch hlen

theorem fresh_einv (c : Conn) (hb : c.sendBody = []) (hc : c.chans = []) (hh : HInv c) : EInv [] c :=
  ⟨by rw [hb]; exact GoodBody.nil _, by intro p hp; rw [hc] at hp; simp at hp, hh⟩

theorem seqInit_hinv (c : Conn) (i o : Int) (ha : c.sendActive = false) : HInv (c.seqInit i o) :=
  ⟨(seqInit_header c i o).1, (seqInit_header c i o).2, fun hx => absurd (show c.sendActive = true from hx) (by simp [ha])⟩

end Utcp
