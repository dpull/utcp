import Utcp.Lemmas.Conn
/-!
# What the receive path does, as a sequence of steps

`ReceivedRawBunch` with everything below it (`DispatchWaitingBunches`, `ReceivedNextBunch`, `merge_partial_data`) does thirteen
kinds of thing (`RStep`): a node is allocated or released, the connection is marked closed, a channel is created, a bunch is
queued, delivered on its own, stored as the first or a further fragment, refused, a group is discarded, delivered or dropped.
Each step is a closed-form state update that carries, as hypotheses, what the code has tested when it gets there.  The
functions are shown once to be sequences of such steps (`…_steps`); an invariant of the receive path is then proved by looking
at the steps (`RSteps.induct`), a relation that only says what is left alone by looking at seven kinds of write (`RClosed`).

The integer index counts bunch nodes that came into flight: allocated, or taken out of a queue, and not yet stored in one of
the channel's lists or released.  `B` says what is known of a bunch that comes from the wire.
-/
namespace Utcp
open Gen

/-- the channel with its receive counter moved to `b`: the first thing `ReceivedNextBunch` does -/
def Channel.took (x : Channel) (b : Bunch) : Channel := if b.bReliable then { x with inReliable := b.chSeq } else x

@[simp] theorem took_inPartial (x : Channel) (b : Bunch) : (x.took b).inPartial = x.inPartial := by unfold Channel.took; split <;> rfl
@[simp] theorem took_inRec (x : Channel) (b : Bunch) : (x.took b).inRec = x.inRec := by unfold Channel.took; split <;> rfl
@[simp] theorem took_outRec (x : Channel) (b : Bunch) : (x.took b).outRec = x.outRec := by unfold Channel.took; split <;> rfl
@[simp] theorem took_outReliable (x : Channel) (b : Bunch) : (x.took b).outReliable = x.outReliable := by unfold Channel.took; split <;> rfl
@[simp] theorem took_bClose (x : Channel) (b : Bunch) : (x.took b).bClose = x.bClose := by unfold Channel.took; split <;> rfl
@[simp] theorem took_closeReason (x : Channel) (b : Bunch) : (x.took b).closeReason = x.closeReason := by unfold Channel.took; split <;> rfl

/-- How `b` came to be the bunch its channel takes next: it is in flight from the wire and has passed the sequence test of
`ReceivedRawBunch`, or it is the head of a queue and `DispatchWaitingBunches` found it to be next (nothing says here that the
queue is the one of `b`'s own channel: that is an invariant, `CInv.queue`).  The index is the number of nodes this puts in flight. -/
inductive Taken (B : Bunch → Prop) (b : Bunch) : Int → Conn → Conn → Prop
  | wire {c : Conn} (x : Channel) (hb : B b) (hx : c.getChan b.chIndex = some x)
      (hn : b.bReliable = true → b.chSeq = x.inReliable + 1) : Taken B b 0 c c
  | queue {c : Conn} (ch : Nat) (x : Channel) (rest : List Bunch) (hx : c.getChan ch = some x) (hq : x.inRec = b :: rest)
      (hseq : b.chSeq = x.inReliable + 1) : Taken B b 1 c (c.setChan ch { x with inRec := rest })

/-- the state after the completed group `g` of channel `ch` was handed to the application -/
def Conn.delivered (c : Conn) (ch : Nat) (g : List Bunch) : Conn :=
  let c := ((g.foldl Conn.noteClose c).emit (.recv g)).freeNodes g.length
  match c.getChan ch with
  | none => c
  | some x => c.setChan ch { x with inPartial := [] }

inductive RStep (B : Bunch → Prop) : Int → Conn → Conn → Prop
  | alloc (c : Conn) : RStep B 1 c (c.emit (.alloc .node))
  | drop (c : Conn) : RStep B (-1) c (c.emit (.free .node))
  | fail (c : Conn) (r : Nat) : RStep B 0 c (c.markClose r)
  | create {c : Conn} (ch : Nat) (h : c.getChan ch = none) : RStep B 0 c (c.createChan ch)
  | enqueue {c : Conn} (x : Channel) (b : Bunch) (q : List Bunch) (hb : B b) (hx : c.getChan b.chIndex = some x)
      (hrel : b.bReliable = true) (hahead : x.inReliable + 1 < b.chSeq) (hroom : x.inRec.length + 1 < reliableBuffer)
      (hq : enqueueIncoming b x.inRec = some q) : RStep B (-1) c (c.setChan b.chIndex { x with inRec := q })
  | single {c c0 : Conn} {δ : Int} (x : Channel) (b : Bunch) (ht : Taken B b δ c c0) (hx : c0.getChan b.chIndex = some x)
      (hp : b.bPartial = false) :
      RStep B (δ - 1) c ((((c0.setChan b.chIndex (x.took b)).noteClose b).emit (.recv [b])).emit (.free .node))
  /-- an initial fragment replaces whatever was being assembled (nothing, a finished or an unreliable group) -/
  | start {c c0 : Conn} {δ : Int} (x : Channel) (b : Bunch) (ht : Taken B b δ c c0) (hx : c0.getChan b.chIndex = some x)
      (hp : b.bPartial = true) (hi : b.bPartialInitial = true) :
      RStep B (δ - 1) c ((c0.freeNodes x.inPartial.length).setChan b.chIndex { x.took b with inPartial := [b] })
  | append {c c0 : Conn} {δ : Int} (x : Channel) (b last : Bunch) (ht : Taken B b δ c c0) (hx : c0.getChan b.chIndex = some x)
      (hp : b.bPartial = true) (hi : b.bPartialInitial = false) (hl : x.inPartial.getLast? = some last) (hm : canMerge last b = true) :
      RStep B (δ - 1) c (c0.setChan b.chIndex { x.took b with inPartial := x.inPartial ++ [b] })
  | refuse {c c0 : Conn} {δ : Int} (x : Channel) (b : Bunch) (ht : Taken B b δ c c0) (hx : c0.getChan b.chIndex = some x)
      (hp : b.bPartial = true) : RStep B (δ - 1) c ((c0.setChan b.chIndex (x.took b)).emit (.free .node))
  | discard {c c0 : Conn} {δ : Int} (x : Channel) (b : Bunch) (ht : Taken B b δ c c0) (hx : c0.getChan b.chIndex = some x)
      (hp : b.bPartial = true) :
      RStep B (δ - 1) c (((c0.freeNodes x.inPartial.length).setChan b.chIndex { x.took b with inPartial := [] }).emit (.free .node))
  /-- the branch of `ReceivedNextBunch` for a bunch whose channel does not exist (a queued bunch of another channel: excluded by `CInv.queue`) -/
  | stray {c c0 : Conn} {δ : Int} (b : Bunch) (ht : Taken B b δ c c0) (hx : c0.getChan b.chIndex = none) :
      RStep B (δ - 1) c (c0.emit (.free .node))
  | deliver {c : Conn} (ch : Nat) (x : Channel) (last : Bunch) (hx : c.getChan ch = some x) (hl : x.inPartial.getLast? = some last)
      (hf : last.bPartialFinal = true) (hcur : last.bReliable = true → last.chSeq = x.inReliable) (hlen : x.inPartial.length ≤ maxGroup) :
      RStep B 0 c (c.delivered ch x.inPartial)
  | overflow {c : Conn} (ch : Nat) (x : Channel) (hx : c.getChan ch = some x) (hlen : x.inPartial.length > maxGroup) :
      RStep B 0 c (((c.freeNodes x.inPartial.length).setChan ch { x with inPartial := [] }).markClose crBunchOverflow)

inductive RSteps (B : Bunch → Prop) : Int → Conn → Conn → Prop
  | refl (c : Conn) : RSteps B 0 c c
  | step {δ δ1 δ2 : Int} {a b c : Conn} (h1 : RStep B δ1 a b) (h2 : RSteps B δ2 b c) (hδ : δ = δ1 + δ2) : RSteps B δ a c

variable {B : Bunch → Prop}

theorem RSteps.cast {δ δ' : Int} {a b : Conn} (h : RSteps B δ a b) (hδ : δ = δ') : RSteps B δ' a b := hδ ▸ h

theorem RSteps.one {δ : Int} {a b : Conn} (h : RStep B δ a b) : RSteps B δ a b := .step h (.refl b) (by omega)

theorem RSteps.trans {δ1 δ2 : Int} {a b c : Conn} (h1 : RSteps B δ1 a b) (h2 : RSteps B δ2 b c) : RSteps B (δ1 + δ2) a c := by
  induction h1 with
  | refl => exact h2.cast (by omega)
  | step s _ hδ ih => exact .step s (ih h2) (by omega)

theorem RSteps.then {δ1 δ2 : Int} {a b c : Conn} (h1 : RSteps B δ1 a b) (h2 : RStep B δ2 b c) : RSteps B (δ1 + δ2) a c :=
  h1.trans (.one h2)

/-- `J d` may speak of the number `d` of nodes in flight -/
theorem RSteps.induct {J : Int → Conn → Prop} (hs : ∀ {δ d : Int} {a b : Conn}, RStep B δ a b → J d a → J (d + δ) b)
    {δ d : Int} {a b : Conn} (h : RSteps B δ a b) (ha : J d a) : J (d + δ) b := by
  induction h generalizing d with
  | refl => simpa using ha
  | step s _ hδ ih => have := ih (hs s ha); rwa [hδ, ← Int.add_assoc]

theorem RSteps.inv {I : Conn → Prop} (hs : ∀ {δ : Int} {a b : Conn}, RStep B δ a b → I a → I b) {δ : Int} {a b : Conn}
    (h : RSteps B δ a b) (ha : I a) : I b := RSteps.induct (J := fun _ => I) (d := 0) hs h ha

theorem RSteps.rel {R : Conn → Conn → Prop} (hr : ∀ c, R c c) (ht : ∀ {a b c}, R a b → R b c → R a c)
    (hs : ∀ {δ : Int} {a b : Conn}, RStep B δ a b → R a b) {δ : Int} {a b : Conn} (h : RSteps B δ a b) : R a b :=
  RSteps.inv (I := R a) (fun s h => ht h (hs s)) h (hr a)

/-- the four things `merge_partial_data` does with a fragment: it starts a group (releasing what was there), appends to the
group, discards an unreliable group, or leaves everything as it is -/
theorem mergePartial_cases (c : Conn) (x : Channel) (b : Bunch) :
    (b.bPartialInitial = true ∧ mergePartial c x b = (c.freeNodes x.inPartial.length, { x with inPartial := [b] }, .succeed, false)) ∨
    (b.bPartialInitial = false ∧ ∃ last, x.inPartial.getLast? = some last ∧ canMerge last b = true ∧
      mergePartial c x b = (c, { x with inPartial := x.inPartial ++ [b] }, if b.bPartialFinal then .available else .succeed, false)) ∨
    (mergePartial c x b = (c.freeNodes x.inPartial.length, { x with inPartial := [] }, .failed, true)) ∨
    (∃ res skip, (res = .fatal ∨ res = .failed) ∧ mergePartial c x b = (c, x, res, skip)) := by
  unfold mergePartial
  cases hi : b.bPartialInitial with
  | true =>
    rw [if_pos rfl]
    unfold mergeInitial
    cases hl : x.inPartial.getLast? with
    | none =>
      -- nothing is being assembled: `freeNodes 0` is the identity
      have : x.inPartial = [] := by simpa using hl
      exact .inl ⟨rfl, by rw [this]; rfl⟩
    | some last =>
      dsimp only
      by_cases hc : (!last.bPartialFinal && last.bReliable) = true
      · rw [if_pos hc]; exact .inr (.inr (.inr ⟨_, _, by cases b.bReliable <;> simp, rfl⟩))
      · rw [if_neg hc]; exact .inl ⟨rfl, rfl⟩
  | false =>
    rw [if_neg (by simp)]
    unfold mergeNext
    cases hl : x.inPartial.getLast? with
    | none => exact .inr (.inr (.inr ⟨_, _, .inr rfl, rfl⟩))
    | some last =>
      dsimp only
      by_cases hm : canMerge last b = true
      · rw [if_pos hm]; exact .inr (.inl ⟨rfl, last, rfl, hm, rfl⟩)
      · rw [if_neg hm]
        by_cases hr : last.bReliable = true
        · rw [if_pos hr]; exact .inr (.inr (.inr ⟨_, _, by cases b.bReliable <;> simp, rfl⟩))
        · rw [if_neg hr]; exact .inr (.inr (.inl rfl))

/-- the end of `ReceivedNextBunch` when the final fragment of a group has just been stored -/
theorem finishGroup_steps (c : Conn) (ch : Nat) (x : Channel) (last : Bunch) (hx : c.getChan ch = some x) (hl : x.inPartial.getLast? = some last)
    (hf : last.bPartialFinal = true) (hcur : last.bReliable = true → last.chSeq = x.inReliable) (skip : Bool) :
    RSteps B 0 c
      (if x.inPartial.length > maxGroup then
          (((c.freeNodes x.inPartial.length).setChan ch { x with inPartial := [] }).markClose crBunchOverflow, skip)
        else
          match (((x.inPartial.foldl Conn.noteClose c).emit (.recv x.inPartial)).freeNodes x.inPartial.length).getChan ch with
          | none => (((x.inPartial.foldl Conn.noteClose c).emit (.recv x.inPartial)).freeNodes x.inPartial.length, skip)
          | some y => ((((x.inPartial.foldl Conn.noteClose c).emit (.recv x.inPartial)).freeNodes x.inPartial.length).setChan ch { y with inPartial := [] }, skip)).1 := by
  split
  · rename_i hlen
    exact .one (.overflow _ _ hx hlen)
  · rename_i hlen
    have := RStep.deliver (B := B) _ _ _ hx hl hf hcur (by omega)
    unfold Conn.delivered at this
    dsimp only at this
    split <;> rename_i hg <;> rw [hg] at this <;> exact .one this

theorem receivedNextBunch_steps {c c0 : Conn} {b : Bunch} {δ : Int} (ht : Taken B b δ c c0) {x : Channel}
    (hx : c0.getChan b.chIndex = some x) : RSteps B (δ - 1) c (c0.receivedNextBunch b).1 := by
  unfold Conn.receivedNextBunch
  rw [hx]
  dsimp only
  rw [show (if b.bReliable = true then ({ x with inReliable := b.chSeq } : Channel) else x) = x.took b from rfl]
  by_cases hp : b.bPartial = true
  · rw [if_pos hp]
    rcases mergePartial_cases c0 (x.took b) b with ⟨hi, h⟩ | ⟨hi, last, hl, hm, h⟩ | h | ⟨res, skip, hres, h⟩
    · rw [h]; simp only [took_inPartial]
      exact .one (.start _ _ ht hx hp hi)
    · rw [took_inPartial] at hl
      rw [h, took_inPartial]
      have s1 : RSteps B (δ - 1) c (c0.setChan b.chIndex { x.took b with inPartial := x.inPartial ++ [b] }) := .one (.append _ _ _ ht hx hp hi hl hm)
      by_cases hf : b.bPartialFinal = true
      · rw [if_pos hf]
        exact (s1.trans (finishGroup_steps _ b.chIndex { x.took b with inPartial := x.inPartial ++ [b] } b (getChan_setChan_self _ _ _) (by simp) hf
          (fun hr => by simp [Channel.took, hr]) false)).cast (Int.add_zero _)
      · rw [if_neg hf]
        exact s1
    · rw [h]; simp only [took_inPartial]
      exact .one (.discard _ _ ht hx hp)
    · rw [h]
      rcases hres with rfl | rfl <;> exact .one (.refuse _ _ ht hx hp)
  · rw [if_neg hp]
    exact .one (.single _ _ ht hx (eq_false_of_ne_true hp))

theorem dispatchWaiting_steps (fuel : Nat) : ∀ (c : Conn) (ch : Nat), RSteps B 0 c (Conn.dispatchWaiting fuel c ch) := by
  induction fuel with
  | zero => intro c ch; exact .refl _
  | succ f ih =>
    intro c ch
    unfold Conn.dispatchWaiting
    split
    · exact .refl _
    · rename_i x hx
      split
      · exact .refl _
      · rename_i b rest hq
        split
        · exact .refl _
        · rename_i hseq
          dsimp only
          have ht : Taken B b 1 c (c.setChan ch { x with inRec := rest }) := .queue _ _ _ hx hq (by simpa using hseq)
          cases hg : (c.setChan ch { x with inRec := rest }).getChan b.chIndex with
          | none =>
            have : ((c.setChan ch { x with inRec := rest }).receivedNextBunch b).1 = (c.setChan ch { x with inRec := rest }).emit (.free .node) := by
              unfold Conn.receivedNextBunch; rw [hg]
            rw [this]
            exact ((RSteps.one (.stray _ ht hg)).trans (ih _ _)).cast (by omega)
          | some y => exact ((receivedNextBunch_steps ht hg).trans (ih _ _)).cast (by omega)

theorem processBunch_steps {c : Conn} {x : Channel} {b : Bunch} (hb : B b) (hx : c.getChan b.chIndex = some x) :
    RSteps B (-1) c (c.processBunch x b).1 := by
  by_cases hn : b.bReliable = true → b.chSeq = x.inReliable + 1
  · rw [processBunch_next c x b hn]
    exact (receivedNextBunch_steps (.wire _ hb hx hn) hx).cast (by omega)
  · obtain ⟨hrel, hne⟩ := Classical.not_imp.mp hn
    by_cases hold : b.chSeq ≤ x.inReliable
    · rw [processBunch_old c x b hrel hold]
      exact .one (.drop c)
    · have hahead : x.inReliable + 1 < b.chSeq := by omega
      rw [processBunch_ahead c x b hrel hahead]
      split
      · exact .one (.drop c)
      · rename_i hroom
        split
        · rename_i q hq
          exact .one (.enqueue _ _ _ hb hx hrel hahead (Nat.lt_of_not_le hroom) hq)
        · exact .one (.drop c)

theorem getOrCreateChan_steps (c : Conn) (b : Bunch) (inc : Bool) : RSteps B 0 c (c.getOrCreateChan b inc).1 := by
  rcases getOrCreateChan_cases c b inc with ⟨he, _⟩ | ⟨hn, _, he⟩ <;> rw [he]
  · exact .refl _
  · exact .one (.create _ hn)

theorem absSeq_chIndex (c : Conn) (x : Channel) (b : Bunch) : (absSeq c x b).chIndex = b.chIndex := by
  unfold absSeq; split
  · rfl
  · split <;> rfl

/-- what `ReceivedRawBunch` knows of the bunch it hands on: decoded from these bits, stamped with the packet id, its sequence made absolute -/
def FromWire (c : Conn) (bits : Bits) (b' : Bunch) : Prop :=
  ∃ b rest c' x, decodeBunch bits = .ok b rest ∧ b' = absSeq c' x { b with packetId := c.inPacketId }

theorem receivedRawBunch_steps (c : Conn) (bits : Bits) (hB : ∀ b, FromWire c bits b → B b) : RSteps B 0 c (c.receivedRawBunch bits).1 := by
  unfold Conn.receivedRawBunch
  dsimp only
  have s0 : RSteps B 1 c (c.emit (.alloc .node)) := .one (.alloc c)
  split
  · exact ((s0.then (.fail _ _)).then (.drop _)).cast (by omega)
  · rename_i b rest hdec
    split
    · exact ((s0.then (.fail _ _)).then (.drop _)).cast (by omega)
    · have s1 := s0.trans (getOrCreateChan_steps (c.emit (.alloc .node)) { b with packetId := (c.emit (.alloc .node)).inPacketId } true)
      split
      · exact (s1.then (.drop _)).cast (by omega)
      · rename_i x hx
        exact ((s1.trans (processBunch_steps (hB _ ⟨b, rest, _, x, hdec, rfl⟩)
          (by rw [absSeq_chIndex, ← getOrCreateChan_snd]; exact hx))).trans (dispatchWaiting_steps _ _ _)).cast (by omega)

theorem bunchLoop_steps (fuel : Nat) : ∀ (c : Conn) (bits : Bits) (skip : Bool), RSteps (fun _ => True) 0 c (Conn.bunchLoop fuel c bits skip).1 := by
  induction fuel with
  | zero => intro c bits skip; exact .refl _
  | succ f ih =>
    intro c bits skip
    unfold Conn.bunchLoop
    split
    · exact .refl _
    · exact ((receivedRawBunch_steps c bits (fun _ _ => trivial)).trans (ih _ _ _)).cast (by omega)

/-- the writes of `utcp_note_close` -/
structure CClosed (R : Conn → Conn → Prop) : Prop where
  refl : ∀ c, R c c
  trans : ∀ {a b c}, R a b → R b c → R a c
  markClose : ∀ c r, R c (c.markClose r)
  markClosed : ∀ c ch x r, c.getChan ch = some x → R c (c.setChan ch (x.markClosed r))
  owe : ∀ c, R c c.oweTeardown

theorem CClosed.noteClose {R : Conn → Conn → Prop} (hR : CClosed R) (c : Conn) (b : Bunch) : R c (c.noteClose b) := by
  rcases noteClose_cases c b with he | ⟨_, c1, hc1, hn⟩
  · rw [he]; exact hR.refl _
  · have hc : R c c1 := by rcases hc1 with rfl | rfl; exact hR.refl _; exact hR.markClose _ _
    rcases hn with ⟨_, he⟩ | ⟨x, hx, he⟩ <;> rw [he]
    · exact hc
    · exact hR.trans (hR.trans hc (hR.markClosed c1 _ x _ hx)) (hR.owe _)

theorem CClosed.foldl_noteClose {R : Conn → Conn → Prop} (hR : CClosed R) (g : List Bunch) : ∀ c : Conn, R c (g.foldl Conn.noteClose c) := by
  induction g with
  | nil => intro c; exact hR.refl _
  | cons b rest ih => intro c; exact hR.trans (hR.noteClose c b) (ih _)

def isMem : Event → Prop
  | .alloc _ | .free _ | .realloc _ => True
  | _ => False

/-- the kinds of write the steps are made of; a relation closed under them holds across the receive path -/
structure RClosed (R : Conn → Conn → Prop) : Prop extends CClosed R where
  mem : ∀ c ev, isMem ev → R c (c.emit ev)
  recv : ∀ c g, R c (c.emit (.recv g))
  /-- an existing channel is replaced by one with the same sending half and the same close mark -/
  setChan : ∀ c ch x x', c.getChan ch = some x → x'.outRec = x.outRec → x'.outReliable = x.outReliable → x'.bClose = x.bClose →
    x'.closeReason = x.closeReason → R c (c.setChan ch x')
  create : ∀ c ch, c.getChan ch = none → R c (c.createChan ch)

section
variable {R : Conn → Conn → Prop} (hR : RClosed R)
include hR

theorem RClosed.mono {R' : Conn → Conn → Prop} (refl : ∀ c, R' c c) (trans : ∀ {a b c}, R' a b → R' b c → R' a c)
    (h : ∀ {c c'}, R c c' → R' c c') : RClosed R' :=
  { refl := refl, trans := trans, markClose := fun c r => h (hR.markClose c r), markClosed := fun c ch x r hx => h (hR.markClosed c ch x r hx)
    owe := fun c => h (hR.owe c), mem := fun c ev hm => h (hR.mem c ev hm), recv := fun c g => h (hR.recv c g)
    setChan := fun c ch x x' hx h1 h2 h3 h4 => h (hR.setChan c ch x x' hx h1 h2 h3 h4), create := fun c ch hn => h (hR.create c ch hn) }

theorem RClosed.freeNodes (c : Conn) (k : Nat) : R c (c.freeNodes k) := by
  unfold Conn.freeNodes
  generalize List.range k = l
  induction l generalizing c with
  | nil => exact hR.refl _
  | cons a rest ih => exact hR.trans (hR.mem c (.free .node) trivial) (ih _)

theorem RClosed.taken {b : Bunch} {δ : Int} {c c0 : Conn} (h : Taken B b δ c c0) : R c c0 := by
  cases h with
  | wire => exact hR.refl _
  | queue _ _ _ hx => exact hR.setChan _ _ _ _ hx rfl rfl rfl rfl

theorem RClosed.step {δ : Int} {a b : Conn} (h : RStep B δ a b) : R a b := by
  cases h with
  | alloc => exact hR.mem _ _ trivial
  | drop => exact hR.mem _ _ trivial
  | fail => exact hR.markClose _ _
  | create _ h => exact hR.create _ _ h
  | enqueue _ _ _ _ hx => exact hR.setChan _ _ _ _ hx rfl rfl rfl rfl
  | single _ _ ht hx =>
    exact hR.trans (hR.taken ht) (hR.trans (hR.trans (hR.trans (hR.setChan _ _ _ _ hx (by simp) (by simp) (by simp) (by simp)) (hR.noteClose _ _))
      (hR.recv _ _)) (hR.mem _ _ trivial))
  | start _ _ ht hx => exact hR.trans (hR.taken ht) (hR.trans (hR.freeNodes _ _) (hR.setChan _ _ _ _ (freeNodes_getChan_some hx) (by simp) (by simp) (by simp) (by simp)))
  | append _ _ _ ht hx => exact hR.trans (hR.taken ht) (hR.setChan _ _ _ _ hx (by simp) (by simp) (by simp) (by simp))
  | refuse _ _ ht hx => exact hR.trans (hR.taken ht) (hR.trans (hR.setChan _ _ _ _ hx (by simp) (by simp) (by simp) (by simp)) (hR.mem _ _ trivial))
  | discard _ _ ht hx =>
    exact hR.trans (hR.taken ht) (hR.trans (hR.trans (hR.freeNodes _ _) (hR.setChan _ _ _ _ (freeNodes_getChan_some hx) (by simp) (by simp) (by simp) (by simp))) (hR.mem _ _ trivial))
  | stray _ ht => exact hR.trans (hR.taken ht) (hR.mem _ _ trivial)
  | deliver ch x last hx =>
    unfold Conn.delivered
    dsimp only
    have h := hR.trans (hR.trans (hR.toCClosed.foldl_noteClose x.inPartial a) (hR.recv _ x.inPartial)) (hR.freeNodes _ x.inPartial.length)
    split
    · exact h
    · rename_i y hy; exact hR.trans h (hR.setChan _ _ _ _ hy rfl rfl rfl rfl)
  | overflow ch x hx =>
    exact hR.trans (hR.trans (hR.freeNodes _ _) (hR.setChan _ _ _ { x with inPartial := [] } (freeNodes_getChan_some hx) rfl rfl rfl rfl)) (hR.markClose _ _)

theorem RClosed.steps {δ : Int} {a b : Conn} (h : RSteps B δ a b) : R a b := h.rel hR.refl hR.trans hR.step

theorem RClosed.getOrCreateChan (c : Conn) (b : Bunch) (inc : Bool) : R c (c.getOrCreateChan b inc).1 :=
  hR.steps (getOrCreateChan_steps (B := fun _ => True) c b inc)

theorem RClosed.bunchLoop (fuel : Nat) (c : Conn) (bits : Bits) (skip : Bool) : R c (Conn.bunchLoop fuel c bits skip).1 :=
  hR.steps (bunchLoop_steps fuel c bits skip)

end

end Utcp
