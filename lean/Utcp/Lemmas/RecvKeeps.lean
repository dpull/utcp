import Utcp.Lemmas.RecvSteps
/-! What the bunch-processing half of the *receive* path (`ReceivedRawBunch` and everything below it) never touches (`SameN`):
the whole packet-notify state, the packet-id counters, the send buffer, `connected` and both time stamps. -/
namespace Utcp
open Gen

structure SameN (c c' : Conn) : Prop where
  notify : c'.notify = c.notify
  inPacketId : c'.inPacketId = c.inPacketId
  lastNotified : c'.lastNotified = c.lastNotified
  sendActive : c'.sendActive = c.sendActive
  sendNotif : c'.sendNotif = c.sendNotif
  sendBody : c'.sendBody = c.sendBody
  connected : c'.connected = c.connected
  lastRecvMs : c'.lastRecvMs = c.lastRecvMs
  lastSendMs : c'.lastSendMs = c.lastSendMs
  outPacketId : c'.outPacketId = c.outPacketId

theorem SameN.refl (c : Conn) : SameN c c := ⟨rfl, rfl, rfl, rfl, rfl, rfl, rfl, rfl, rfl, rfl⟩
theorem SameN.trans {a b c : Conn} (h1 : SameN a b) (h2 : SameN b c) : SameN a c :=
  ⟨h2.1.trans h1.1, h2.2.trans h1.2, h2.3.trans h1.3, h2.4.trans h1.4, h2.5.trans h1.5, h2.6.trans h1.6, h2.7.trans h1.7, h2.8.trans h1.8, h2.9.trans h1.9, h2.10.trans h1.10⟩

theorem emit_sameN (c : Conn) (ev : Event) : SameN c (c.emit ev) := ⟨rfl, rfl, rfl, rfl, rfl, rfl, rfl, rfl, rfl, rfl⟩
theorem setChan_sameN (c : Conn) (ch : Nat) (x : Channel) : SameN c (c.setChan ch x) := ⟨rfl, rfl, rfl, rfl, rfl, rfl, rfl, rfl, rfl, rfl⟩
theorem markClose_sameN (c : Conn) (r : Nat) : SameN c (c.markClose r) := by
  obtain ⟨_, _, h⟩ := markClose_eq c r; rw [h]; exact ⟨rfl, rfl, rfl, rfl, rfl, rfl, rfl, rfl, rfl, rfl⟩

theorem sameN_rclosed : RClosed SameN where
  refl := SameN.refl
  trans := SameN.trans
  mem c ev _ := emit_sameN c ev
  recv c g := emit_sameN c _
  setChan c ch _ x' _ _ _ _ _ := setChan_sameN c ch x'
  markClosed c ch _ _ _ := setChan_sameN c ch _
  create c ch _ := by obtain ⟨_, _, _, h⟩ := createChan_eq c ch; rw [h]; exact ⟨rfl, rfl, rfl, rfl, rfl, rfl, rfl, rfl, rfl, rfl⟩
  markClose := markClose_sameN
  owe _ := ⟨rfl, rfl, rfl, rfl, rfl, rfl, rfl, rfl, rfl, rfl⟩

theorem bunchLoop_sameN (fuel : Nat) : ∀ (c : Conn) (bits : Bits) (skip : Bool), SameN c (Conn.bunchLoop fuel c bits skip).1 :=
  sameN_rclosed.bunchLoop fuel

end Utcp
