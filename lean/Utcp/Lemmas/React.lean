import Utcp.Handshake
/-!
# What the listener does with one datagram

`LState.react` decodes three layers and hands the result to `LState.onHandshake`, which does one of three things, or a fourth for an
empty address.  The equations below say which, once; everything the properties C05–C08 claim about a single datagram is read off them.
-/
namespace Utcp

variable {T : Type} (tm : TimeOps T) (mac : Mac) (e : Env) (rng : Rng) (l : LState T) (addr : String)

/-- the challenge `SendConnectChallenge` issues for handshake data `hs` -/
def challengeFor (client : Nat) (hs : HsData) : Rng × Bits :=
  capHandshake e rng hs.curVer (hsPacket e hs.curVer (e.travel % 4) client false ptChallenge hs.sentCount hs.netVer (l.active != 0)
    (tm.toBits (tm.now e.elapsedUs)) (l.cookie mac addr (l.active != 0) (tm.toBits (tm.now e.elapsedUs))) [])

/-- the secret id a challenge carries (`active != 0`), read back as a slot index the way `validSecret` does, is the active slot -/
theorem slot_of_active {a : Nat} (h : a = 0 ∨ a = 1) : (if (a != 0) then 1 else 0) = a := by
  rcases h with rfl | rfl <;> rfl

/-- the ack `SendChallengeAck` issues for handshake data `hs` -/
def ackFor (client : Nat) (hs : HsData) : Rng × Bits :=
  capHandshake e rng hs.curVer (hsPacket e hs.curVer (e.travel % 4) client false ptAck hs.sentCount hs.netVer true 0xBFF0000000000000
    (if hs.restart then hs.origCookie else hs.cookie) [])

theorem onHandshake_initial (client : Nat) (hs : HsData) (hi : (hs.ptype == ptInitial && tm.isZero (tm.ofBits hs.ts)) = true)
    (ha : addr.isEmpty = false) :
    l.onHandshake tm mac e rng addr client hs =
      { st := l, rng := (challengeFor tm mac e rng l addr client hs).1, code := 0, acc := none,
        evs := [.out (bitsBytes (challengeFor tm mac e rng l addr client hs).2)] } := by
  unfold LState.onHandshake challengeFor
  simp only [hi, if_true, ha, Bool.false_eq_true, if_false]

/-- an initial packet from an empty address "passes" `HasPassedChallenge` vacuously (the properties exclude it): the challenge goes out together with
an acceptance that leaves even the scratch alone -/
theorem onHandshake_vacuous (client : Nat) (hs : HsData) (hi : (hs.ptype == ptInitial && tm.isZero (tm.ofBits hs.ts)) = true)
    (ha : addr.isEmpty = true) :
    l.onHandshake tm mac e rng addr client hs =
      { st := l, rng := (challengeFor tm mac e rng l addr client hs).1, code := 0,
        evs := [.accept false "-", .out (bitsBytes (challengeFor tm mac e rng l addr client hs).2)],
        acc := some { addr := addr, restarted := false, cookie := List.replicate 20 0, serverSeq := 0, clientSeq := 0 } } := by
  unfold LState.onHandshake challengeFor
  simp only [hi, if_true, ha]

theorem onHandshake_refused (client : Nat) (hs : HsData) (hi : (hs.ptype == ptInitial && tm.isZero (tm.ofBits hs.ts)) = false)
    (hd : l.decision tm mac e addr hs ≠ 0) :
    l.onHandshake tm mac e rng addr client hs = { st := l, rng := rng, code := l.decision tm mac e addr hs, acc := none, evs := [] } := by
  unfold LState.onHandshake
  simp only [hi, Bool.false_eq_true, if_false, bne_iff_ne, ne_eq, hd, not_false_eq_true, if_true]

theorem onHandshake_accepted (client : Nat) (hs : HsData) (hi : (hs.ptype == ptInitial && tm.isZero (tm.ofBits hs.ts)) = false)
    (hd : l.decision tm mac e addr hs = 0) :
    l.onHandshake tm mac e rng addr client hs =
      { st := { l with addrScratch := (addr.toUTF8.toList).drop 1 }, rng := (ackFor e rng client hs).1, code := 0,
        evs := [.accept hs.restart (if addr.isEmpty then "-" else addr), .out (bitsBytes (ackFor e rng client hs).2)],
        acc := some { addr := addr, restarted := hs.restart, cookie := if hs.restart then hs.origCookie else hs.cookie,
                      serverSeq := if hs.restart then 0 else seqFromCookie hs.cookie 0,
                      clientSeq := if hs.restart then 0 else seqFromCookie hs.cookie 1 } } := by
  unfold LState.onHandshake ackFor
  simp only [hi, Bool.false_eq_true, if_false, hd, bne_self_eq_false]

theorem onHandshake_acc_isSome (client : Nat) (hs : HsData) (ha : addr.isEmpty = false)
    (h : (l.onHandshake tm mac e rng addr client hs).acc.isSome = true) :
    (hs.ptype == ptInitial && tm.isZero (tm.ofBits hs.ts)) = false ∧ l.decision tm mac e addr hs = 0 := by
  cases hi : (hs.ptype == ptInitial && tm.isZero (tm.ofBits hs.ts))
  · by_cases hd : l.decision tm mac e addr hs = 0
    · exact ⟨rfl, hd⟩
    · rw [onHandshake_refused tm mac e rng l addr client hs hi hd] at h; cases h
  · rw [onHandshake_initial tm mac e rng l addr client hs hi ha] at h; cases h

/-- the forms a reaction of a listener in state `l` can take: silence or one reply datagram, the state as it was; or an acceptance
with its ack, the state differing in the address scratch at most -/
inductive Reacts : Reaction T → Prop
  | quiet (rng : Rng) (code : Int) : Reacts { st := l, rng := rng, code := code, acc := none, evs := [] }
  | reply (rng : Rng) (code : Int) (b : List UInt8) : Reacts { st := l, rng := rng, code := code, acc := none, evs := [.out b] }
  | accept (rng : Rng) (scratch : List UInt8) (a : Accepted) (r : Bool) (name : String) (b : List UInt8) :
      Reacts { st := { l with addrScratch := scratch }, rng := rng, code := 0, acc := some a, evs := [.accept r name, .out b] }

theorem onHandshake_reacts (client : Nat) (hs : HsData) : Reacts l (l.onHandshake tm mac e rng addr client hs) := by
  cases hi : (hs.ptype == ptInitial && tm.isZero (tm.ofBits hs.ts))
  · by_cases hd : l.decision tm mac e addr hs = 0
    · rw [onHandshake_accepted tm mac e rng l addr client hs hi hd]; exact .accept ..
    · rw [onHandshake_refused tm mac e rng l addr client hs hi hd]; exact .quiet ..
  · cases ha : addr.isEmpty
    · rw [onHandshake_initial tm mac e rng l addr client hs hi ha]; exact .reply ..
    · rw [onHandshake_vacuous tm mac e rng l addr client hs hi ha]; exact .accept _ l.addrScratch ..

/-- **`utcp_listener_incoming`, characterised**: either the datagram frames and parses as handshake data and the listener acts on exactly
that data, or it answers with silence or the restart request and accepts nobody -/
theorem react_cases (bytes : List UInt8) :
    (∃ bits s client rest hs, readInit bytes = some bits ∧ readOutgoingHeader e bits = .ok (s, client, true) rest ∧
        parseHandshake rest = some hs ∧ l.react tm mac e rng addr bytes = l.onHandshake tm mac e rng addr client hs) ∨
    (∃ rng' code, l.react tm mac e rng addr bytes = { st := l, rng := rng', code := code, acc := none, evs := [] }) ∨
    (∃ rng' code b, l.react tm mac e rng addr bytes = { st := l, rng := rng', code := code, acc := none, evs := [.out b] }) := by
  unfold LState.react
  split
  · exact .inr (.inl ⟨_, _, rfl⟩)
  · rename_i bits hbits
    split
    · exact .inr (.inl ⟨_, _, rfl⟩)
    · rename_i s client isHs rest hhdr
      cases isHs
      · exact .inr (.inr ⟨_, _, _, rfl⟩)
      · simp only [Bool.not_true, Bool.false_eq_true, if_false]
        split
        · exact .inr (.inl ⟨_, _, rfl⟩)
        · rename_i hs hparse
          exact .inl ⟨bits, s, client, rest, hs, hbits, hhdr, hparse, rfl⟩

theorem react_of_wire (d : List UInt8) (bits rest : Bits) (s c : Nat) (hs : HsData)
    (h1 : readInit d = some bits) (h2 : readOutgoingHeader e bits = .ok (s, c, true) rest) (h3 : parseHandshake rest = some hs) :
    l.react tm mac e rng addr d = l.onHandshake tm mac e rng addr c hs := by
  unfold LState.react
  simp only [h1, h2, h3, Bool.not_true, Bool.false_eq_true, if_false]

theorem react_reacts (bytes : List UInt8) : Reacts l (l.react tm mac e rng addr bytes) := by
  rcases react_cases tm mac e rng l addr bytes with ⟨_, _, client, _, hs, _, _, _, h⟩ | ⟨_, _, h⟩ | ⟨_, _, _, h⟩ <;> rw [h]
  · exact onHandshake_reacts ..
  · exact .quiet ..
  · exact .reply ..

end Utcp
