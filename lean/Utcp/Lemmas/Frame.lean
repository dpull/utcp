import Utcp.Basic
/-! Byte framing: `bitsToBytes` / `bytesToBits` / the terminator bit that `bitbuf_read_init` strips. -/
namespace Utcp

theorem bitsToBytes_nil : bitsToBytes [] = [] := by rw [bitsToBytes, dif_pos rfl]

theorem bitsToBytes_ne_nil (l : Bits) (h : l ≠ []) :
    bitsToBytes l = UInt8.ofNat (bitsToNat (l.take 8)) :: bitsToBytes (l.drop 8) := by rw [bitsToBytes, dif_neg h]

theorem natToBits_zero (k : Nat) : natToBits 0 k = List.replicate k false := by
  induction k with
  | zero => rfl
  | succ k ih => rw [natToBits, ih]; rfl

theorem bytesToBits_replicate_zero (n : Nat) : bytesToBits (List.replicate n 0) = List.replicate (8 * n) false := by
  induction n with
  | zero => rfl
  | succ n ih => rw [List.replicate_succ, bytesToBits, ih, Nat.mul_succ, Nat.add_comm, ← List.replicate_append_replicate]; rfl

theorem natToBits_cons (b : Bool) (n w : Nat) : natToBits ((if b then 1 else 0) + 2 * n) (w + 1) = b :: natToBits n w := by
  rw [natToBits]
  cases b
  · rw [if_neg Bool.false_ne_true, Nat.zero_add, Nat.mul_mod_right, Nat.mul_div_cancel_left _ (by decide)]; rfl
  · rw [if_pos rfl, Nat.add_mul_mod_self_left, Nat.add_mul_div_left _ _ (by decide), Nat.zero_add]; rfl

theorem natToBits_bitsToNat_pad (t : Bits) (k : Nat) : natToBits (bitsToNat t) (t.length + k) = t ++ List.replicate k false := by
  induction t with
  | nil => rw [bitsToNat, List.length_nil, Nat.zero_add, natToBits_zero]; rfl
  | cons b t ih => rw [bitsToNat, List.length_cons, Nat.add_right_comm, natToBits_cons, ih]; rfl

theorem u8_toNat_ofNat (n : Nat) (h : n < 256) : (UInt8.ofNat n).toNat = n := by
  simp [Nat.mod_eq_of_lt h]

theorem bitsToNat_lt_256 (t : Bits) (h : t.length ≤ 8) : bitsToNat t < 256 :=
  Nat.lt_of_lt_of_le (bitsToNat_lt t) (Nat.pow_le_pow_right (by decide) h)

theorem byte_bits (t : Bits) (h : t.length ≤ 8) : natToBits (UInt8.ofNat (bitsToNat t)).toNat 8 = t ++ List.replicate (8 - t.length) false := by
  have := natToBits_bitsToNat_pad t (8 - t.length)
  rwa [Nat.add_sub_cancel' h, ← u8_toNat_ofNat _ (bitsToNat_lt_256 t h)] at this

def padLen (n : Nat) : Nat := (8 - n % 8) % 8

theorem padLen_sub {n : Nat} (h : 8 ≤ n) : padLen (n - 8) = padLen n := by
  rw [padLen, padLen, ← Nat.mod_eq_sub_mod h]

theorem padLen_of_lt {n : Nat} (h0 : 0 < n) (h : n < 8) : padLen n = 8 - n := by
  rw [padLen, Nat.mod_eq_of_lt h, Nat.mod_eq_of_lt (Nat.sub_lt (by decide) h0)]

theorem bytesToBits_bitsToBytes (l : Bits) : bytesToBits (bitsToBytes l) = l ++ List.replicate (padLen l.length) false := by
  induction l using bitsToBytes.induct with
  | case1 => rw [bitsToBytes_nil]; rfl
  | case2 l hl ih =>
    rw [bitsToBytes_ne_nil l hl, bytesToBits, ih, byte_bits _ (List.length_take_le 8 l)]
    by_cases h8 : 8 ≤ l.length
    · rw [List.length_take_of_le h8, List.length_drop, padLen_sub h8, Nat.sub_self, List.replicate_zero, List.append_nil, ← List.append_assoc,
        List.take_append_drop]
    · have hle := Nat.le_of_lt (Nat.not_le.1 h8)
      rw [List.take_of_length_le hle, List.drop_of_length_le hle, padLen_of_lt (List.length_pos_iff.2 hl) (Nat.not_le.1 h8)]
      exact List.append_nil _

theorem bitsToBytes_bytesToBits (bs : List UInt8) : bitsToBytes (bytesToBits bs) = bs := by
  induction bs with
  | nil => exact bitsToBytes_nil
  | cons b bs ih =>
    have hlen : (natToBits b.toNat 8).length = 8 := natToBits_length _ _
    rw [bytesToBits, bitsToBytes_ne_nil _ (List.append_ne_nil_of_left_ne_nil (List.ne_nil_of_length_pos (by rw [hlen]; decide)) _),
      List.take_left' hlen, List.drop_left' hlen, ih, bitsToNat_natToBits, Nat.mod_eq_of_lt b.toNat_lt, UInt8.ofNat_toNat]

theorem stripTrailing_replicate_false (k : Nat) : stripTrailing (List.replicate k false) = [] := by
  induction k with
  | zero => rfl
  | succ k ih => simp [List.replicate_succ, stripTrailing, ih]

theorem stripTrailing_terminated (l : Bits) (k : Nat) : stripTrailing (l ++ [true] ++ List.replicate k false) = l ++ [true] := by
  induction l with
  | nil => simp [stripTrailing, stripTrailing_replicate_false]
  | cons b t ih =>
    simp only [List.cons_append, stripTrailing]
    rw [ih]
    cases t <;> simp

/-- one byte more for the first eight bits or fewer -/
theorem ceil8_step {n : Nat} (h : 0 < n) : (n - 8 + 7) / 8 + 1 = (n + 7) / 8 := by omega

theorem bitsToBytes_length (l : Bits) : (bitsToBytes l).length = (l.length + 7) / 8 := by
  induction l using bitsToBytes.induct with
  | case1 => rw [bitsToBytes_nil]; rfl
  | case2 l hl ih =>
    rw [bitsToBytes_ne_nil l hl, List.length_cons, ih, List.length_drop, ceil8_step (List.length_pos_iff.2 hl)]

theorem bitsToNat_pos_of_mem (t : Bits) (h : true ∈ t) : 0 < bitsToNat t := by
  induction t with
  | nil => simp at h
  | cons b t ih =>
    simp only [bitsToNat]
    cases b
    · exact Nat.add_pos_right _ (Nat.mul_pos (by decide) (ih ((List.mem_cons.mp h).resolve_left (by decide))))
    · exact Nat.add_pos_left Nat.one_pos _

/-- the last byte of a bit string that ends in a 1 bit is not zero (`C18`: the datagram's terminator) -/
theorem bitsToBytes_last_ne_zero (l : Bits) : ∃ bytes last, bitsToBytes (l ++ [true]) = bytes ++ [last] ∧ last ≠ 0 := by
  generalize hx : l ++ [true] = x
  induction x using bitsToBytes.induct generalizing l with
  | case1 => simp at hx
  | case2 x hne ih =>
    subst hx
    rw [bitsToBytes_ne_nil _ hne]
    by_cases h8 : 8 ≤ l.length
    · obtain ⟨bytes, last, hb, hl⟩ := ih (l.drop 8) (List.drop_append_of_le_length h8).symm
      exact ⟨_ :: bytes, last, by rw [hb]; rfl, hl⟩
    · have hlen : (l ++ [true]).length ≤ 8 := by rw [List.length_append]; exact Nat.not_le.1 h8
      rw [List.drop_of_length_le hlen, List.take_of_length_le hlen, bitsToBytes_nil]
      refine ⟨[], _, rfl, fun h0 => ?_⟩
      have := congrArg UInt8.toNat h0
      rw [u8_toNat_ofNat _ (bitsToNat_lt_256 _ hlen)] at this
      exact Nat.ne_of_gt (bitsToNat_pos_of_mem (l ++ [true]) (by simp)) this

theorem readInit_bitsToBytes (l : Bits) : readInit (bitsToBytes (l ++ [true])) = some l := by
  obtain ⟨bytes, last, hb, hl⟩ := bitsToBytes_last_ne_zero l
  unfold readInit
  rw [hb]
  simp only [List.getLast?_append, List.getLast?_singleton, Option.some_or]
  have : (last == 0) = false := decide_eq_false hl
  simp only [this, Bool.false_eq_true, if_false]
  rw [← hb, bytesToBits_bitsToBytes, stripTrailing_terminated]
  simp

end Utcp
