import Utcp.Lemmas.Conn
import Utcp.Props.C13
/-!
# Two ends initialised with mirrored sequence numbers

`utcp_sequence_init(conn, x, y)` on one end and `utcp_sequence_init(conn', y, x)` on the other: each end's outgoing numbering is the
other's incoming numbering, and the first header either end writes passes the other's acceptance test — for all integers `x`, `y`.
-/
namespace Utcp
open Gen Props.C13

/-- the notify state `utcp_sequence_init` leaves, with the 16-bit wrap-arounds of the C code resolved -/
theorem seqInit_notify (c : Conn) (i o : Int) : (c.seqInit i o).notify = c.notify.init ((i - 1) % 16384) (o % 16384) := by
  unfold Conn.seqInit; rw [seq_num_init_mod, seq_num_init_mod]

theorem init_outAckSeq (n : Notify) (i o : Int) : (n.init i (o % 16384)).outAckSeq = (o - 1) % 16384 := by
  show seq_num_init ((o % 16384 - 1) % 65536) = _
  rw [seq_num_init_mod, Int.emod_sub_emod]

theorem seqInit_first_accepted (a b : Conn) (x y : Int) (w : Nat) :
    (a.seqInit y x).notify.deltaSeq ((b.seqInit x y).notify.headerWith w) = 1 := by
  rw [seqInit_notify, seqInit_notify, Notify.deltaSeq_eq]
  unfold Notify.deltaSeqSpec
  rw [init_outAckSeq]
  show (if (seq_num_greater_than (y % 16384) ((y - 1) % 16384) && seq_num_greater_equal ((x - 1) % 16384) ((x - 1) % 16384)
      && seq_num_greater_than (x % 16384) ((x - 1) % 16384)) = true then seq_num_diff (y % 16384) ((y - 1) % 16384) else 0) = 1
  -- consecutive numbers: the distance is 1, well inside the window
  have hwin : ∀ z : Int, -8192 < z - (z - 1) ∧ z - (z - 1) < 8192 := fun z => by rw [Int.sub_sub_self]; decide
  have hgt : ∀ z : Int, z > z - 1 := fun z => Int.sub_lt_self z (by decide)
  rw [gt_abs y (y - 1) (hwin y), gt_abs x (x - 1) (hwin x), diff_abs y (y - 1) ⟨Int.le_of_lt (hwin y).1, (hwin y).2⟩, ge_refl,
    decide_eq_true (hgt y), decide_eq_true (hgt x)]
  exact Int.sub_sub_self y 1

theorem seqInit_mirror (a b : Conn) (x y : Int) :
    (a.seqInit y x).outPacketId = (b.seqInit x y).inPacketId + 1 ∧
    (a.seqInit y x).initOutReliable = (b.seqInit x y).initInReliable ∧
    (a.seqInit y x).notify.outSeq = seq_num_inc (b.seqInit x y).notify.inSeq 1 := by
  rw [seqInit_notify, seqInit_notify]
  refine ⟨(Int.sub_add_cancel x 1).symm, rfl, ?_⟩
  show x % 16384 = seq_num_inc ((x - 1) % 16384) 1
  rw [inc_eq, Int.emod_add_emod, Int.sub_add_cancel]

end Utcp
