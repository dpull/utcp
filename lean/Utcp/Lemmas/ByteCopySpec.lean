import Utcp.Lemmas.ByteCopyMain
import Utcp.Lemmas.ByteCopySmall
/-! The specification of `appBitsCpy` as a whole. -/
namespace Utcp.BB

theorem appBitsCpy_upd (dest src : Mem) (hdk : BytesOK dest) (hsk : BytesOK src) (db sb n : Nat)
    (hdl : db + n ≤ 8 * dest.length) (hsl : sb + n ≤ 8 * src.length) :
    ∃ dest', appBitsCpy dest db src sb n = some dest' ∧ Upd dest dest' db (db + n) (srcAt src sb db) := by
  obtain ⟨D0, d, hd8, rfl⟩ := exists_byte_offset db
  obtain ⟨S0, s, hs8, rfl⟩ := exists_byte_offset sb
  unfold appBitsCpy
  by_cases h0 : n = 0
  · subst h0
    exact ⟨dest, if_pos rfl, Upd.empty hdk (Nat.le_refl _) _⟩
  · rw [if_neg h0]
    by_cases h8 : n ≤ 8
    · rw [if_pos h8]
      exact cpySmall_core dest src hdk hsk D0 d S0 s n hd8 hs8 (Nat.pos_of_ne_zero h0) h8 hdl hsl
    · rw [if_neg h8]
      exact cpyMain_core dest src hdk hsk D0 d S0 s n ((d + n) / 8) ((d + n) % 8) hd8 hs8 (Nat.mod_lt _ (by decide)) (Nat.lt_of_not_le h8)
        (Nat.div_add_mod _ 8).symm hdl hsl

end Utcp.BB
