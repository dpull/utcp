import Utcp.Lemmas.RecvSide
/-!
# The sender's channel sequence counters

`c.outRelOf ch`: the last reliable sequence number assigned on channel `ch` (the initial value while the channel does not exist yet).
`OSame c c'`: these counters are the same in `c'` as in `c`.  Everything except an accepted reliable send keeps them: flushing,
retransmission, release on ACK, and the whole receive path (which may *create* channels — with the initial value).
-/
namespace Utcp
open Gen

def Conn.outRelOf (c : Conn) (ch : Nat) : Int :=
  match c.getChan ch with
  | some x => x.outReliable
  | none => c.initOutReliable

structure OSame (c c' : Conn) : Prop where
  out : ∀ ch, c'.outRelOf ch = c.outRelOf ch
  init : c'.initOutReliable = c.initOutReliable
  /-- (carried along: the initial value of the receive counters is never touched either) -/
  initIn : c'.initInReliable = c.initInReliable

theorem OSame.refl (c : Conn) : OSame c c := ⟨fun _ => rfl, rfl, rfl⟩
theorem OSame.trans {a b c : Conn} (h1 : OSame a b) (h2 : OSame b c) : OSame a c :=
  ⟨fun ch => (h2.out ch).trans (h1.out ch), h2.init.trans h1.init, h2.initIn.trans h1.initIn⟩

theorem OSame.of_chans {c c' : Conn} (hc : c'.chans = c.chans) (hi : c'.initOutReliable = c.initOutReliable)
    (hi2 : c'.initInReliable = c.initInReliable := by rfl) : OSame c c' :=
  ⟨fun ch => by unfold Conn.outRelOf Conn.getChan; rw [hc, hi], hi, hi2⟩

theorem setChan_osame (c : Conn) (ch : Nat) (x x' : Channel) (h : c.getChan ch = some x) (ho : x'.outReliable = x.outReliable) :
    OSame c (c.setChan ch x') := by
  refine ⟨?_, rfl, rfl⟩
  intro ch'
  unfold Conn.outRelOf
  by_cases he : ch' = ch
  · subst he; rw [getChan_setChan_self, h]; exact ho
  · rw [getChan_setChan_other he]; rfl

theorem emit_osame (c : Conn) (ev : Event) : OSame c (c.emit ev) := OSame.of_chans rfl rfl

theorem markClose_osame (c : Conn) (r : Nat) : OSame c (c.markClose r) := by
  obtain ⟨_, _, h⟩ := markClose_eq c r; rw [h]; exact OSame.of_chans rfl rfl rfl

theorem createChan_osame (c : Conn) (ch : Nat) (hn : c.getChan ch = none) : OSame c (c.createChan ch) := by
  obtain ⟨_, _, _, heq⟩ := createChan_eq c ch
  rw [heq]
  refine ⟨fun ch' => ?_, rfl, rfl⟩
  unfold Conn.outRelOf
  by_cases he : ch' = ch
  · subst he; rw [getChan_setChan_self, hn]
  · rw [getChan_setChan_other he]; rfl

theorem OSame.chan {c c' : Conn} (_h : OSame c c') {ch : Nat} {x : Channel} (hx : c.getChan ch = some x) (hc : c'.chans = c.chans) :
    c'.getChan ch = some x := (getChan_of_chans hc ch).trans hx

theorem osame_rclosed : RClosed OSame where
  refl := OSame.refl
  trans := OSame.trans
  mem c ev _ := emit_osame c ev
  recv c g := emit_osame c _
  setChan c ch x x' hx _ ho _ _ := setChan_osame c ch x x' hx ho
  markClosed c ch x r hx := setChan_osame c ch x _ hx (markClosed_outReliable x r)
  create := createChan_osame
  markClose := markClose_osame
  owe _ := OSame.of_chans rfl rfl

theorem osame_sclosed (e : Env) : SClosed e OSame where
  refl := OSame.refl
  trans := OSame.trans
  startPacket _ := OSame.of_chans rfl rfl
  flushNow _ _ := OSame.of_chans rfl rfl
  append _ _ := OSame.of_chans rfl rfl
  setOut c ch x _ hx := setChan_osame c ch x _ hx rfl

theorem osame_nclosed (e : Env) : NClosed e OSame :=
  (osame_sclosed e).toNClosed (fun c => emit_osame c _) (fun _ => OSame.of_chans rfl rfl) (fun _ => OSame.of_chans rfl rfl)
    (fun c _ _ => emit_osame c _) (fun _ _ _ _ _ => OSame.of_chans rfl rfl)

theorem receivedPacket_osame (e : Env) (c : Conn) (bits : Bits) : OSame c (c.receivedPacket e bits).1 :=
  receivedPacket_closed OSame.refl OSame.trans markClose_osame (osame_nclosed e).notifyUpdate osame_rclosed.bunchLoop (fun _ _ => OSame.of_chans rfl rfl) (fun _ _ _ => OSame.of_chans rfl rfl) c bits

/-- the channel sequence number the next accepted send of `b` gets -/
def Conn.nextSeq (c : Conn) (b : Bunch) : Int := if b.bReliable then c.outRelOf b.chIndex + 1 else 0

/-- `b` as the sender numbers it -/
def Conn.tagged (c : Conn) (b : Bunch) : Bunch := { b with chSeq := c.nextSeq b }

theorem outRelOf_of_get {c : Conn} {ch : Nat} {x : Channel} (h : c.getChan ch = some x) : c.outRelOf ch = x.outReliable := by
  unfold Conn.outRelOf; rw [h]

/-- the channel `sendCommit` works on exists and still carries the counter it had before (or the initial value) -/
theorem sendCommit_chan (c : Conn) (b : Bunch) (h0 : Bits) (h : c.sendCheck b = .inr h0) :
    OSame c ((c.getOrCreateChan b false).1.noteClose b) ∧
    ∃ x, ((c.getOrCreateChan b false).1.noteClose b).getChan b.chIndex = some x ∧ x.outReliable = c.outRelOf b.chIndex := by
  have hs : OSame c ((c.getOrCreateChan b false).1.noteClose b) := (osame_rclosed.getOrCreateChan c b false).trans (osame_rclosed.noteClose _ b)
  refine ⟨hs, ?_⟩
  have hex : (c.getChan b.chIndex).isSome ∨ b.bOpen = true ∨ (false = true ∧ b.bReliable = true) := by
    rcases (sendCheck_cases h).2.1 with h1 | h1
    · exact Or.inl h1
    · exact Or.inr (Or.inl h1)
  obtain ⟨x0, hx0⟩ := getOrCreateChan_some c b false hex
  have hsome := noteClose_getChan_isSome (c.getOrCreateChan b false).1 b b.chIndex (by rw [hx0]; rfl)
  cases hg : ((c.getOrCreateChan b false).1.noteClose b).getChan b.chIndex with
  | none => rw [hg] at hsome; simp at hsome
  | some x => exact ⟨x, rfl, by rw [← hs.out b.chIndex, outRelOf_of_get hg]⟩

/-- **an accepted send** moves exactly the counter of its channel, by one, and only if the bunch is reliable -/
theorem sendCommit_out (e : Env) (c : Conn) (b : Bunch) (h0 : Bits) (h : c.sendCheck b = .inr h0) :
    (c.sendCommit e b h0).1.initOutReliable = c.initOutReliable ∧
    (∀ ch, ch ≠ b.chIndex → (c.sendCommit e b h0).1.outRelOf ch = c.outRelOf ch) ∧
    (c.sendCommit e b h0).1.outRelOf b.chIndex = (if b.bReliable then c.nextSeq b else c.outRelOf b.chIndex) := by
  obtain ⟨hs, x, hx, hxo⟩ := sendCommit_chan c b h0 h
  cases hr : b.bReliable with
  | false =>
    rw [sendCommit_unreliable e c b h0 x hr hx]
    have hw := (osame_sclosed e).writeBits ((c.getOrCreateChan b false).1.noteClose b) (h0 ++ b.data)
    exact ⟨hw.init.trans hs.init, fun ch _ => (hw.out ch).trans (hs.out ch), (hw.out _).trans (hs.out _)⟩
  | true =>
    rw [sendCommit_reliable e c b h0 x hr hx]
    generalize (c.getOrCreateChan b false).1.noteClose b = c1 at hs hx ⊢
    generalize (encodeBunchHeader { b with chSeq := x.outReliable + 1 }).getD h0 ++ b.data = bits
    -- the counter is set, everything after keeps it
    have h2 : ∀ ch, (c1.setChan b.chIndex { x with outReliable := x.outReliable + 1 }).outRelOf ch = if ch = b.chIndex then x.outReliable + 1 else c1.outRelOf ch := by
      intro ch
      unfold Conn.outRelOf
      by_cases he : ch = b.chIndex
      · subst he; simp
      · rw [getChan_setChan_other he]; simp only [he, if_false]; rfl
    have hr1 := (((osame_sclosed e).writeBits (c1.setChan b.chIndex { x with outReliable := x.outReliable + 1 }) bits).trans (emit_osame _ (.alloc .node))).trans
      ((osame_sclosed e).addOutRec _ b.chIndex ((c1.setChan b.chIndex { x with outReliable := x.outReliable + 1 }).writeBits e bits).2 bits)
    refine ⟨by rw [hr1.init]; exact hs.init, ?_, ?_⟩
    · intro ch hne
      rw [hr1.out ch, h2 ch]; simp only [hne, if_false]; exact hs.out ch
    · rw [hr1.out b.chIndex, h2 b.chIndex]
      simp only [if_true, Conn.nextSeq, hr, hxo]

end Utcp
