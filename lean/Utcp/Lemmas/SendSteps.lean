import Utcp.Lemmas.RecvSteps
/-!
# What the sending machinery, the notification handler and the API calls leave alone

The functions of the send path are made of three kinds of write to the send buffer (`BClosed`) and, where a record is kept or re-sent on
NAK, the replacement of a channel's records (`SClosed`); `HandlePacketNotification` and `packet_notify_update` have a structure of their
own (`NClosed`: what is called for an ACK and for a NAK, and four writes).  A reflexive, transitive relation that holds across each
kind of write holds across every function: that is proved here once per function, and a relation such as `Keeps`, `OSame` or `ECnt` is
then an instance with a field per kind of write.
`receivedPacket_closed`, `sendBunch_closed` and `update_closed` do the same for the three API calls, which also run the receive
path (`RClosed`) and a few writes of their own, given as hypotheses; `AClosed` bundles every kind of write for relations that
hold across all of them.
-/
namespace Utcp
open Gen

/-- the writes of the send buffer (`utcp_send_flush`, `PrepareWriteBitsToSendBuffer`, `WriteBitsToSendBuffer`) -/
structure BClosed (e : Env) (R : Conn → Conn → Prop) : Prop where
  refl : ∀ c, R c c
  trans : ∀ {a b c}, R a b → R b c → R a c
  startPacket : ∀ c, R c c.startPacket
  flushNow : ∀ c, c.sendActive = true → R c (c.flushNow e)
  append : ∀ c bits, R c { c with sendBody := c.sendBody ++ bits }

/-- … and of keeping a record and of retransmission: the records of an existing channel are replaced -/
structure SClosed (e : Env) (R : Conn → Conn → Prop) : Prop extends BClosed e R where
  setOut : ∀ c ch x r, c.getChan ch = some x → R c (c.setChan ch { x with outRec := r })

/-- the notification handler: its own writes, and what it calls for an ACK and for a NAK -/
structure NClosed (e : Env) (R : Conn → Conn → Prop) : Prop where
  refl : ∀ c, R c c
  trans : ∀ {a b c}, R a b → R b c → R a c
  onAck : ∀ c pid chs, R c (c.onAckChans pid chs)
  onNak : ∀ c pid chs, R c (c.onNakChans e pid chs)
  notified : ∀ c, R c { c with lastNotified := c.lastNotified + 1 }
  acked : ∀ c, R c { c with outAckPacketId := c.lastNotified }
  status : ∀ c p v, R c (c.emit (.status p v))
  /-- the record ring and the three sequence numbers a header moves -/
  notify : ∀ c r i o s, R c { c with notify := { c.notify with ackRecord := r, inAckSeqAck := i, outAckSeq := o, inSeq := s } }

section
variable {e : Env} {R : Conn → Conn → Prop}

/-- release on ACK, channel by channel: the records of the packet go out of the list, a node is released for each -/
theorem onAckChans_steps (refl : ∀ c, R c c) (trans : ∀ {a b c}, R a b → R b c → R a c) (pid : Int)
    (hstep : ∀ c ch x, c.getChan ch = some x →
      R c ((removeOutgoing pid x.outRec).1.foldl (fun c _ => c.emit (.free .node)) (c.setChan ch { x with outRec := (removeOutgoing pid x.outRec).2 })))
    (chs : List Nat) : ∀ c : Conn, R c (c.onAckChans pid chs) := by
  induction chs with
  | nil => exact refl
  | cons ch rest ih =>
    intro c
    unfold Conn.onAckChans
    split
    · exact ih c
    · rename_i x hx; exact trans (hstep c ch x hx) (ih _)

/-- retransmission on NAK, channel by channel: the records of the packet go out of the list and are re-sent -/
theorem onNakChans_steps (refl : ∀ c, R c c) (trans : ∀ {a b c}, R a b → R b c → R a c) (pid : Int)
    (hstep : ∀ c ch x, c.getChan ch = some x →
      R c ((c.setChan ch { x with outRec := (removeOutgoing pid x.outRec).2 }).resendNodes e ch (removeOutgoing pid x.outRec).1))
    (chs : List Nat) : ∀ c : Conn, R c (c.onNakChans e pid chs) := by
  induction chs with
  | nil => exact refl
  | cons ch rest ih =>
    intro c
    unfold Conn.onNakChans
    split
    · exact ih c
    · rename_i x hx; exact trans (hstep c ch x hx) (ih _)

/-- for a relation that holds write by write -/
theorem onAckChans_closed (refl : ∀ c, R c c) (trans : ∀ {a b c}, R a b → R b c → R a c)
    (setOut : ∀ c ch x r, c.getChan ch = some x → R c (c.setChan ch { x with outRec := r })) (free : ∀ c, R c (c.emit (.free .node)))
    (pid : Int) (chs : List Nat) (c : Conn) : R c (c.onAckChans pid chs) := by
  refine onAckChans_steps refl trans pid (fun c ch x hx => trans (setOut c ch x (removeOutgoing pid x.outRec).2 hx) ?_) chs c
  generalize c.setChan ch { x with outRec := (removeOutgoing pid x.outRec).2 } = c1
  generalize (removeOutgoing pid x.outRec).1 = rem
  induction rem generalizing c1 with
  | nil => exact refl _
  | cons _ _ ih2 => exact trans (free c1) (ih2 _)

/-! ### the send buffer: `utcp_send_flush` and `WriteBitsToSendBuffer`, given what starting a packet, emitting it and appending these bits do -/

section
variable (refl : ∀ c, R c c) (trans : ∀ {a b c}, R a b → R b c → R a c) (hstart : ∀ c, R c c.startPacket)
  (hflush : ∀ c, c.sendActive = true → R c (c.flushNow e))
include refl trans hstart hflush

theorem flush_closed (c : Conn) : R c (c.flush e) := by
  by_cases h : c.flushDue e = true
  · rw [flush_of_due h]
    split
    · rename_i ha; exact hflush c ha
    · exact trans (hstart c) (hflush _ rfl)
  · rw [flush_of_not_due h]; exact refl _

theorem prepareWrite_closed (c : Conn) (n : Nat) : R c (c.prepareWrite e n) := by
  have hf := flush_closed refl trans hstart hflush c
  unfold Conn.prepareWrite
  dsimp only
  by_cases hfull : decide ((n : Int) > c.freeBits e) = true
  · rw [if_pos hfull]
    by_cases ha : (!(c.flush e).sendActive) = true
    · rw [if_pos ha]; exact trans hf (hstart _)
    · rw [if_neg ha]; exact hf
  · rw [if_neg hfull]
    by_cases ha : (!c.sendActive) = true
    · rw [if_pos ha]; exact hstart _
    · rw [if_neg ha]; exact refl _

theorem writeInternal_closed (bits : Bits) (happ : ∀ c, R c { c with sendBody := c.sendBody ++ bits }) (c : Conn) : R c (c.writeInternal e bits).1 := by
  unfold Conn.writeInternal
  dsimp only
  split
  · exact trans (happ c) (flush_closed refl trans hstart hflush _)
  · exact happ c

theorem writeBits_closed (bits : Bits) (happ : ∀ c, R c { c with sendBody := c.sendBody ++ bits }) (c : Conn) : R c (c.writeBits e bits).1 :=
  trans (prepareWrite_closed refl trans hstart hflush c _) (writeInternal_closed refl trans hstart hflush bits happ _)

end

section
variable (hR : BClosed e R)
include hR

theorem BClosed.mono {R' : Conn → Conn → Prop} (refl : ∀ c, R' c c) (trans : ∀ {a b c}, R' a b → R' b c → R' a c)
    (h : ∀ {c c'}, R c c' → R' c c') : BClosed e R' :=
  ⟨refl, trans, fun c => h (hR.startPacket c), fun c ha => h (hR.flushNow c ha), fun c b => h (hR.append c b)⟩

theorem BClosed.flush (c : Conn) : R c (c.flush e) := flush_closed hR.refl hR.trans hR.startPacket hR.flushNow c

theorem BClosed.prepareWrite (c : Conn) (n : Nat) : R c (c.prepareWrite e n) := prepareWrite_closed hR.refl hR.trans hR.startPacket hR.flushNow c n

theorem BClosed.writeInternal (c : Conn) (bits : Bits) : R c (c.writeInternal e bits).1 :=
  writeInternal_closed hR.refl hR.trans hR.startPacket hR.flushNow bits (fun c => hR.append c bits) c

theorem BClosed.writeBits (c : Conn) (bits : Bits) : R c (c.writeBits e bits).1 :=
  writeBits_closed hR.refl hR.trans hR.startPacket hR.flushNow bits (fun c => hR.append c bits) c

end

theorem chans_bclosed (e : Env) : BClosed e (fun c c' => c'.chans = c.chans) :=
  ⟨fun _ => rfl, fun h1 h2 => h2.trans h1, fun _ => rfl, fun _ _ => rfl, fun _ _ => rfl⟩

theorem flush_chans (e : Env) (c : Conn) : (c.flush e).chans = c.chans := (chans_bclosed e).flush c
theorem prepareWrite_chans (e : Env) (c : Conn) (n : Nat) : (c.prepareWrite e n).chans = c.chans := (chans_bclosed e).prepareWrite c n
theorem writeInternal_chans (e : Env) (c : Conn) (bits : Bits) : (c.writeInternal e bits).1.chans = c.chans := (chans_bclosed e).writeInternal c bits
theorem writeBits_chans (e : Env) (c : Conn) (bits : Bits) : (c.writeBits e bits).1.chans = c.chans := (chans_bclosed e).writeBits c bits
theorem writeBits_getChan (e : Env) (c : Conn) (bits : Bits) (ch : Nat) : (c.writeBits e bits).1.getChan ch = c.getChan ch :=
  getChan_of_chans (writeBits_chans e c bits) ch

section
variable (hR : SClosed e R)
include hR

theorem SClosed.addOutRec (c : Conn) (ch : Nat) (pid : Int) (bits : Bits) : R c (c.addOutRec ch pid bits) := by
  unfold Conn.addOutRec
  split
  · exact hR.refl _
  · rename_i x hx; exact hR.setOut _ _ _ _ hx

theorem SClosed.resendNodes (ch : Nat) (nodes : List OutNode) : ∀ c : Conn, R c (c.resendNodes e ch nodes) := by
  induction nodes with
  | nil => intro c; exact hR.refl _
  | cons n rest ih =>
    intro c
    unfold Conn.resendNodes
    dsimp only
    refine hR.trans (hR.writeBits c n.bits) (hR.trans ?_ (ih _))
    split
    · exact hR.refl _
    · rename_i x hx; exact hR.setOut _ _ _ _ hx

theorem SClosed.onNakChans (pid : Int) (chs : List Nat) (c : Conn) : R c (c.onNakChans e pid chs) :=
  onNakChans_steps hR.refl hR.trans pid (fun c ch x hx => hR.trans (hR.setOut c ch x _ hx) (hR.resendNodes ch _ _)) chs c

theorem SClosed.toNClosed (free : ∀ c, R c (c.emit (.free .node))) (notified : ∀ c, R c { c with lastNotified := c.lastNotified + 1 })
    (acked : ∀ c, R c { c with outAckPacketId := c.lastNotified }) (status : ∀ c p v, R c (c.emit (.status p v)))
    (notify : ∀ c r i o s, R c { c with notify := { c.notify with ackRecord := r, inAckSeqAck := i, outAckSeq := o, inSeq := s } }) : NClosed e R :=
  ⟨hR.refl, hR.trans, fun c pid chs => onAckChans_closed hR.refl hR.trans hR.setOut free pid chs c, fun c pid chs => hR.onNakChans pid chs c,
    notified, acked, status, notify⟩

end

theorem updateInAckSeqAck_eq (n : Notify) (k : Nat) (a : Int) :
    ∃ r i, n.updateInAckSeqAck k a = { n with ackRecord := r, inAckSeqAck := i } := by
  unfold Notify.updateInAckSeqAck
  dsimp only
  by_cases hk : k ≤ n.ackRecord.length
  · rw [if_pos hk]
    split
    · split <;> exact ⟨_, _, rfl⟩
    · exact ⟨_, _, rfl⟩
  · rw [if_neg hk]
    exact ⟨_, _, rfl⟩

theorem notifyUpdate_closed (refl : ∀ c, R c c) (trans : ∀ {a b c}, R a b → R b c → R a c)
    (hnote : ∀ c v, R c (c.handleNotification e v))
    (notify : ∀ c r i o s, R c { c with notify := { c.notify with ackRecord := r, inAckSeqAck := i, outAckSeq := o, inSeq := s } })
    (c : Conn) (h : NotifHeader) : R c (c.notifyUpdate e h) := by
  have hfold : ∀ (vs : List (Int × Bool)) (c : Conn), R c (vs.foldl (Conn.handleNotification e) c) := by
    intro vs
    induction vs with
    | nil => intro c; exact refl _
    | cons v rest ih => intro c; exact trans (hnote c v) (ih _)
  have hupd : ∀ k a, R c { c with notify := c.notify.updateInAckSeqAck k a } := by
    intro k a
    obtain ⟨r, i, hu⟩ := updateInAckSeqAck_eq c.notify k a
    rw [hu]
    exact notify c r i _ _
  unfold Conn.notifyUpdate
  -- the receive sequence is written last on either branch
  refine trans ?_ (notify _ _ _ _ h.seq)
  by_cases hgt : seq_num_greater_than h.ackedSeq c.notify.outAckSeq = true
  · rw [if_pos hgt]
    exact trans (trans (hupd _ _) (hfold _ _)) (notify _ _ _ h.ackedSeq _)
  · rw [if_neg hgt]
    exact refl c

section
variable (hR : NClosed e R)
include hR

theorem NClosed.handleNotification (c : Conn) (v : Int × Bool) : R c (c.handleNotification e v) := by
  unfold Conn.handleNotification
  dsimp only
  have h0 := hR.notified c
  by_cases hid : (seq_num_init ((c.lastNotified + 1) % 65536) != v.1) = true
  · rw [if_pos hid]; exact h0
  · rw [if_neg hid]
    by_cases hv : v.2 = true
    · rw [if_pos hv]; exact hR.trans (hR.trans (hR.trans h0 (hR.acked _)) (hR.onAck _ _ _)) (hR.status _ _ _)
    · rw [if_neg hv]; exact hR.trans (hR.trans h0 (hR.onNak _ _ _)) (hR.status _ _ _)

theorem NClosed.notifyUpdate (c : Conn) (h : NotifHeader) : R c (c.notifyUpdate e h) :=
  notifyUpdate_closed hR.refl hR.trans hR.handleNotification hR.notify c h

end

theorem receivedPacket_closed (refl : ∀ c, R c c) (trans : ∀ {a b c}, R a b → R b c → R a c) (hmark : ∀ c r, R c (c.markClose r))
    (hupd : ∀ c h, R c (c.notifyUpdate e h)) (hloop : ∀ fuel c bits skip, R c (Conn.bunchLoop fuel c bits skip).1)
    (hin : ∀ c d, R c { c with inPacketId := c.inPacketId + d }) (hack : ∀ c p a, R c { c with notify := c.notify.ackSeq p a })
    (c : Conn) (bits : Bits) : R c (c.receivedPacket e bits).1 := by
  rcases receivedPacket_cases e c bits with ⟨r, _, h⟩ | ⟨_, _, _, _, h⟩ | ⟨hd, rest, _, _, h⟩ <;> rw [h]
  · exact hmark _ _
  · exact refl _
  · have h3 := trans (trans (hin c (c.notify.deltaSeq hd)) (hupd _ hd)) (hloop (rest.length + 1) _ rest false)
    exact trans h3 (hack _ _ _)

/-- what `SendRawBunch` does once the channel is there and marked, for the bits it writes (`W` for what goes through the send buffer, `G` for what is
recorded): a send counter moves, the bunch goes through the send buffer and — writing leaves the channel table alone, so the channel is still there —
a node is allocated and stored as its record, in one step (`hrecord`: the allocation balance is off in between) -/
theorem sendCommit_bits_closed (refl : ∀ c, R c c) (trans : ∀ {a b c}, R a b → R b c → R a c) {W G : Bits → Prop}
    (hwrite : ∀ c bits, W bits → R c (c.writeBits e bits).1) (hGW : ∀ bits, G bits → W bits)
    (hseq : ∀ c ch x s, c.getChan ch = some x → R c (c.setChan ch { x with outReliable := s }))
    (hrecord : ∀ c ch x n, c.getChan ch = some x → G n.bits → R c ((c.emit (.alloc .node)).setChan ch { x with outRec := x.outRec ++ [n] }))
    (c : Conn) (b : Bunch) (h0 : Bits)
    (hbits : ∀ x, ((c.getOrCreateChan b false).1.noteClose b).getChan b.chIndex = some x →
      (b.bReliable = true → G ((encodeBunchHeader { b with chSeq := x.outReliable + 1 }).getD h0 ++ b.data)) ∧ (b.bReliable = false → W (h0 ++ b.data))) :
    R ((c.getOrCreateChan b false).1.noteClose b) (c.sendCommit e b h0).1 := by
  cases hx : ((c.getOrCreateChan b false).1.noteClose b).getChan b.chIndex with
  | none => rw [sendCommit_none e c b h0 hx]; exact refl _
  | some x =>
    obtain ⟨hg, hw⟩ := hbits x hx
    cases hr : b.bReliable with
    | false => rw [sendCommit_unreliable e c b h0 x hr hx]; exact hwrite _ _ (hw hr)
    | true =>
      -- writing leaves the channel table alone: the channel whose counter was moved takes the record
      have hch := (writeBits_getChan e (((c.getOrCreateChan b false).1.noteClose b).setChan b.chIndex { x with outReliable := x.outReliable + 1 })
        ((encodeBunchHeader { b with chSeq := x.outReliable + 1 }).getD h0 ++ b.data) b.chIndex).trans (getChan_setChan_self _ _ _)
      rw [sendCommit_reliable e c b h0 x hr hx, addOutRec_existing _ _ ((emit_getChan _ _ _).trans hch)]
      exact trans (trans (hseq _ _ _ _ hx) (hwrite _ _ (hGW _ (hg hr)))) (hrecord _ _ _ _ hch (hg hr))

/-- … for a relation that does not look at the bits -/
theorem sendCommit_closed (hS : BClosed e R) (hseq : ∀ c ch x s, c.getChan ch = some x → R c (c.setChan ch { x with outReliable := s }))
    (hrecord : ∀ c ch x n, c.getChan ch = some x → R c ((c.emit (.alloc .node)).setChan ch { x with outRec := x.outRec ++ [n] }))
    (c : Conn) (b : Bunch) (h0 : Bits) : R ((c.getOrCreateChan b false).1.noteClose b) (c.sendCommit e b h0).1 :=
  sendCommit_bits_closed (W := fun _ => True) (G := fun _ => True) hS.refl hS.trans (fun c bits _ => hS.writeBits c bits) (fun _ _ => trivial) hseq
    (fun c ch x n hx _ => hrecord c ch x n hx) c b h0 (fun _ _ => ⟨fun _ => trivial, fun _ => trivial⟩)

theorem sendBunch_closed (hS : BClosed e R) (hC : CClosed R) (hcreate : ∀ c ch, c.getChan ch = none → R c (c.createChan ch))
    (hseq : ∀ c ch x s, c.getChan ch = some x → R c (c.setChan ch { x with outReliable := s }))
    (hrecord : ∀ c ch x n, c.getChan ch = some x → R c ((c.emit (.alloc .node)).setChan ch { x with outRec := x.outRec ++ [n] }))
    (c : Conn) (b : Bunch) : R c (c.sendBunch e b).1 := by
  cases hchk : c.sendCheck b with
  | inl err => rw [sendBunch_refused e hchk]; exact hS.refl _
  | inr h0 =>
    rw [sendBunch_accepted e hchk]
    refine hS.trans (hS.trans ?_ (hC.noteClose _ b)) (sendCommit_closed hS hseq hrecord c b h0)
    rcases getOrCreateChan_cases c b false with ⟨he, _⟩ | ⟨hn, _, he⟩ <;> rw [he]
    · exact hS.refl _
    · exact hcreate _ _ hn

/-- … for a relation that holds across the two writes separately -/
theorem SClosed.record (hR : SClosed e R) (halloc : ∀ c, R c (c.emit (.alloc .node))) (c : Conn) (ch : Nat) (x : Channel) (n : OutNode)
    (hx : c.getChan ch = some x) : R c ((c.emit (.alloc .node)).setChan ch { x with outRec := x.outRec ++ [n] }) :=
  hR.trans (halloc c) (hR.setOut _ ch x _ hx)

/-- `utcp_update` given what the deferred teardown does -/
theorem updateTail_closed (refl : ∀ c, R c c) (trans : ∀ {a b c}, R a b → R b c → R a c)
    (hmark : ∀ c r, R c (c.markClose r)) (hbye : ∀ c r, R c (c.emit (.disconnect r))) (c : Conn)
    (hd : R (c.checkTimeout e) (c.checkTimeout e).delayClose) : R c (c.checkTimeout e).updateTail.1 := by
  have h1 : R c (c.checkTimeout e) := by rcases checkTimeout_cases e c with h | h <;> rw [h]; exact refl _; exact hmark _ _
  unfold Conn.updateTail
  dsimp only
  split
  · exact trans h1 hd
  · exact trans (trans h1 hd) (hbye _ _)

/-- `utcp_update` for a connected endpoint: the timeout test, the deferred teardown of closed channels, the disconnect report -/
theorem update_closed (hB : RClosed R) (howe : ∀ c v, R c { c with hasChannelClose := v })
    (hrm : ∀ c ch, R c { c with chans := c.chans.filter (·.1 != ch) }) (hbye : ∀ c r, R c (c.emit (.disconnect r))) (c : Conn) :
    R c (c.checkTimeout e).updateTail.1 := by
  refine updateTail_closed hB.refl hB.trans hB.markClose hbye c ?_
  generalize c.checkTimeout e = c
  have hfree : ∀ (c : Conn) (x : Channel), R c (c.freeChan x) := by
    intro c x
    unfold Conn.freeChan
    exact hB.trans (hB.trans (hB.trans (hB.freeNodes c _) (hB.freeNodes _ _)) (hB.freeNodes _ _)) (hB.mem _ _ trivial)
  unfold Conn.delayClose
  by_cases hcc : (!c.hasChannelClose) = true
  · rw [if_pos hcc]; exact hB.refl _
  · rw [if_neg hcc]
    dsimp only
    refine hB.trans (howe c false) ?_
    generalize ({ c with hasChannelClose := false } : Conn) = c'
    generalize c.chans.reverse = l
    induction l generalizing c' with
    | nil => exact hB.refl _
    | cons p rest ih =>
      rw [List.foldl_cons]
      refine hB.trans ?_ (ih _)
      by_cases hopen : (!p.2.bClose) = true
      · rw [if_pos hopen]; exact hB.refl _
      · rw [if_neg hopen]
        by_cases hrec : (!p.2.outRec.isEmpty) = true
        · rw [if_pos hrec]; exact howe _ _
        · rw [if_neg hrec]
          have := hrm (c'.freeChan p.2) p.1
          rw [freeChan_chans] at this
          exact hB.trans (hfree c' p.2) this

/-- a relation closed under every kind of write the data path of a connected endpoint makes holds across every API call -/
structure AClosed (e : Env) (R : Conn → Conn → Prop) : Prop extends BClosed e R where
  /-- an existing channel is replaced by one with the same close mark -/
  setChan : ∀ c ch x x', c.getChan ch = some x → x'.bClose = x.bClose → x'.closeReason = x.closeReason → R c (c.setChan ch x')
  markClosed : ∀ c ch x r, c.getChan ch = some x → R c (c.setChan ch (x.markClosed r))
  create : ∀ c ch, c.getChan ch = none → R c (c.createChan ch)
  remove : ∀ c ch, R c { c with chans := c.chans.filter (·.1 != ch) }
  /-- any event but a datagram (those are logged by `flushNow`) -/
  emit : ∀ c ev, (∀ bytes, ev ≠ .out bytes) → R c (c.emit ev)
  markClose : ∀ c r, R c (c.markClose r)
  owe : ∀ c v, R c { c with hasChannelClose := v }
  notified : ∀ c, R c { c with lastNotified := c.lastNotified + 1 }
  acked : ∀ c, R c { c with outAckPacketId := c.lastNotified }
  notify : ∀ c r i o s, R c { c with notify := { c.notify with ackRecord := r, inAckSeqAck := i, outAckSeq := o, inSeq := s } }
  ackSeq : ∀ c h i, R c { c with notify := { c.notify with hist := h, inAckSeq := i } }
  inPacket : ∀ c d, R c { c with inPacketId := c.inPacketId + d }

section
variable (hR : AClosed e R)
include hR

theorem AClosed.toRClosed : RClosed R :=
  { refl := hR.refl, trans := hR.trans, markClose := hR.markClose, markClosed := hR.markClosed, owe := fun c => hR.owe c true
    mem := fun c ev h => hR.emit c ev (by intro b hb; subst hb; cases h), recv := fun c g => hR.emit c _ (by intro b hb; cases hb)
    setChan := fun c ch x x' hx _ _ h1 h2 => hR.setChan c ch x x' hx h1 h2, create := hR.create }

theorem AClosed.toSClosed : SClosed e R := { hR.toBClosed with setOut := fun c ch x _ hx => hR.setChan c ch x _ hx rfl rfl }

theorem AClosed.toNClosed : NClosed e R :=
  hR.toSClosed.toNClosed (fun c => hR.emit c _ (by intro b hb; cases hb)) hR.notified hR.acked (fun c p v => hR.emit c _ (by intro b hb; cases hb))
    hR.notify

theorem AClosed.receivedPacket (c : Conn) (bits : Bits) : R c (c.receivedPacket e bits).1 :=
  receivedPacket_closed hR.refl hR.trans hR.markClose hR.toNClosed.notifyUpdate hR.toRClosed.bunchLoop hR.inPacket
    (fun c p a => by obtain ⟨i, h, hh, _⟩ := ackSeq_frame c.notify p a; rw [hh]; exact hR.ackSeq c h i) c bits

theorem AClosed.sendBunch (c : Conn) (b : Bunch) : R c (c.sendBunch e b).1 :=
  sendBunch_closed hR.toBClosed hR.toRClosed.toCClosed hR.create (fun c ch x _ hx => hR.setChan c ch x _ hx rfl rfl)
    (hR.toSClosed.record fun c => hR.emit c _ (by intro b hb; cases hb)) c b

theorem AClosed.update (c : Conn) : R c (c.checkTimeout e).updateTail.1 :=
  update_closed hR.toRClosed hR.owe hR.remove (fun c r => hR.emit c _ (by intro b hb; cases hb)) c

end

/-- only `flushNow` writes the wire sequence, the outgoing packet id and the send stamp, and nothing in the data path writes the receive stamp
or `connected`: a relation that holds whenever these five fields are unchanged is closed once it holds across `flushNow` -/
theorem AClosed.of_flushNow (refl : ∀ c, R c c) (trans : ∀ {a b c}, R a b → R b c → R a c)
    (flushNow : ∀ c, c.sendActive = true → R c (c.flushNow e))
    (same : ∀ c c' : Conn, c'.notify.outSeq = c.notify.outSeq → c'.outPacketId = c.outPacketId → c'.lastRecvMs = c.lastRecvMs →
      c'.connected = c.connected → c'.lastSendMs = c.lastSendMs → R c c') : AClosed e R where
  refl := refl
  trans := trans
  startPacket _ := by
    unfold Conn.startPacket Notify.fillFresh
    exact same _ _ rfl rfl rfl rfl rfl
  flushNow := flushNow
  append _ _ := same _ _ rfl rfl rfl rfl rfl
  setChan _ _ _ _ _ _ _ := same _ _ rfl rfl rfl rfl rfl
  markClosed _ _ _ _ _ := same _ _ rfl rfl rfl rfl rfl
  create c ch _ := by obtain ⟨_, _, _, h⟩ := createChan_eq c ch; rw [h]; exact same _ _ rfl rfl rfl rfl rfl
  remove _ _ := same _ _ rfl rfl rfl rfl rfl
  emit _ _ _ := same _ _ rfl rfl rfl rfl rfl
  markClose c r := by obtain ⟨_, _, h⟩ := markClose_eq c r; rw [h]; exact same _ _ rfl rfl rfl rfl rfl
  owe _ _ := same _ _ rfl rfl rfl rfl rfl
  notified _ := same _ _ rfl rfl rfl rfl rfl
  acked _ := same _ _ rfl rfl rfl rfl rfl
  notify _ _ _ _ _ := same _ _ rfl rfl rfl rfl rfl
  ackSeq _ _ _ := same _ _ rfl rfl rfl rfl rfl
  inPacket _ _ := same _ _ rfl rfl rfl rfl rfl

/-! ### a channel table sorted by index: the deferred teardown frees channels *of the table* -/

def KeysSorted (l : List (Nat × Channel)) : Prop := l.Pairwise (fun a b => a.1 < b.1)

theorem find_none_of_lt (ch : Nat) (l : List (Nat × Channel)) (h : ∀ p ∈ l, ch < p.1) : l.find? (·.1 == ch) = none := by
  rw [List.find?_eq_none]
  intro p hp
  exact mt beq_iff_eq.mp (Nat.ne_of_gt (h p hp))

theorem find_of_mem_sorted : ∀ (l : List (Nat × Channel)) (p : Nat × Channel), KeysSorted l → p ∈ l → l.find? (·.1 == p.1) = some p := by
  intro l
  induction l with
  | nil => intro p _ hp; cases hp
  | cons q rest ih =>
    intro p hs hp
    unfold KeysSorted at hs
    rw [List.pairwise_cons] at hs
    rcases List.mem_cons.mp hp with rfl | hp
    · simp [List.find?]
    · have hlt := hs.1 p hp
      have hne : (q.1 == p.1) = false := beq_false_of_ne (Nat.ne_of_lt hlt)
      simp only [List.find?, hne]
      exact ih p hs.2 hp

/-- in a sorted table every entry is the one found under its index -/
theorem getChan_of_mem_sorted {c : Conn} {p : Nat × Channel} (hs : KeysSorted c.chans) (hp : p ∈ c.chans) : c.getChan p.1 = some p.2 := by
  unfold Conn.getChan; rw [find_of_mem_sorted _ p hs hp]; rfl

theorem insertSorted_sorted (ch : Nat) (x : Channel) (l : List (Nat × Channel)) (h : KeysSorted l) : KeysSorted (insertSorted ch x l) := by
  induction l with
  | nil => simp [insertSorted, KeysSorted]
  | cons kv rest ih =>
    obtain ⟨k, v⟩ := kv
    unfold KeysSorted at h ⊢
    rw [List.pairwise_cons] at h
    rw [insertSorted]
    by_cases hlt : ch < k
    · rw [if_pos hlt, List.pairwise_cons]
      refine ⟨?_, List.pairwise_cons.mpr h⟩
      intro p hp
      rcases List.mem_cons.mp hp with rfl | hp
      · exact hlt
      · exact Nat.lt_trans hlt (h.1 p hp)
    · rw [if_neg hlt]
      by_cases heq : (ch == k) = true
      · rw [if_pos heq, List.pairwise_cons]; exact ⟨h.1, h.2⟩
      · rw [if_neg heq, List.pairwise_cons]
        refine ⟨?_, ih h.2⟩
        intro p hp
        rcases mem_insertSorted ch x rest p hp with rfl | hq
        · exact Nat.lt_of_le_of_ne (Nat.le_of_not_lt hlt) (Ne.symm (mt beq_iff_eq.mpr heq))
        · exact h.1 p hq

/-- `update_closed` for a sorted channel table: the one real step of the deferred teardown frees a channel *of the table* that is marked
closed and holds no record, and takes it out -/
theorem update_sorted_closed {R : Conn → Conn → Prop} (refl : ∀ c, R c c) (trans : ∀ {a b c}, R a b → R b c → R a c)
    (hmark : ∀ c r, R c (c.markClose r)) (howe : ∀ c v, R c { c with hasChannelClose := v })
    (hfree : ∀ (c : Conn) (p : Nat × Channel), KeysSorted c.chans → p ∈ c.chans → p.2.bClose = true → p.2.outRec = [] →
      R c { c.freeChan p.2 with chans := c.chans.filter (·.1 != p.1) })
    (hbye : ∀ c r, R c (c.emit (.disconnect r))) (e : Env) (c : Conn) (hs : KeysSorted c.chans) : R c (c.checkTimeout e).updateTail.1 := by
  refine updateTail_closed (e := e) refl trans hmark hbye c ?_
  have hs : KeysSorted (c.checkTimeout e).chans := by rw [checkTimeout_chans]; exact hs
  generalize c.checkTimeout e = c at hs ⊢
  unfold Conn.delayClose
  by_cases hcc : (!c.hasChannelClose) = true
  · rw [if_pos hcc]; exact refl _
  · rw [if_neg hcc]
    refine trans (howe c false) ?_
    -- the channels still to be visited are in the table, each once
    have hfold : ∀ (l : List (Nat × Channel)) (c' : Conn), KeysSorted c'.chans → (∀ q ∈ l, q ∈ c'.chans) → l.Pairwise (fun a b => a.1 ≠ b.1) →
        R c' (l.foldl (fun c (p : Nat × Channel) =>
          if !p.2.bClose then c
          else if !p.2.outRec.isEmpty then { c with hasChannelClose := true }
          else { c.freeChan p.2 with chans := c.chans.filter (·.1 != p.1) }) c') := by
      intro l
      induction l with
      | nil => intro c' _ _ _; exact refl _
      | cons p rest ih =>
        intro c' hs' hmem hpw
        rw [List.pairwise_cons] at hpw
        rw [List.foldl_cons]
        have hrest : ∀ q ∈ rest, q ∈ c'.chans := fun q hq => hmem q (List.mem_cons_of_mem _ hq)
        by_cases hcl : p.2.bClose = true
        · rw [if_neg (by simp [hcl])]
          by_cases hemp : p.2.outRec = []
          · rw [if_neg (by simp [hemp])]
            refine trans (hfree c' p hs' (hmem p List.mem_cons_self) hcl hemp) (ih _ (List.Pairwise.filter _ hs') ?_ hpw.2)
            exact fun q hq => List.mem_filter.mpr ⟨hrest q hq, by simpa using fun h => hpw.1 q hq h.symm⟩
          · rw [if_pos (by simpa using hemp)]
            exact trans (howe c' true) (ih _ hs' hrest hpw.2)
        · rw [if_pos (by simp [hcl])]
          exact ih _ hs' hrest hpw.2
    refine hfold c.chans.reverse _ hs (fun q hq => by simpa using hq) ?_
    rw [List.pairwise_reverse]
    exact hs.imp (fun hlt => by omega)

end

end Utcp
