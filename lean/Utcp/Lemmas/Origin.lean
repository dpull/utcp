import Utcp.Lemmas.GroupInv
import Utcp.Props.C11
/-!
# Where delivered bunches come from (receiver side)

`Q` is any predicate on bunches that does not look at the packet id and survives making the sequence number absolute (`QStable`).  `OInv Q c`: every bunch
waiting in a channel of `c` (out-of-order queue, reassembly list) satisfies `Q`.  `OP Q ev`: if `ev` is a receive callback, every
bunch it carries satisfies `Q`.  This is an invariant of the receive side (`oinv_side`): if the body of every packet is a concatenation
of encodings of well-formed bunches satisfying `Q`, everything ever delivered satisfies `Q`.
-/
namespace Utcp
open Gen Partial

structure QStable (Q : Bunch → Prop) : Prop where
  /-- a reliable bunch keeps `Q` when its wire sequence is made absolute against any reference -/
  seq : ∀ (b : Bunch) (ref : Int), b.bReliable = true → Q b → Q { b with chSeq := MakeRelative_chseq b.chSeq ref }
  /-- an unreliable bunch keeps `Q` whatever sequence it borrows -/
  useq : ∀ (b : Bunch) (s : Int), b.bReliable = false → Q b → Q { b with chSeq := s }
  pid : ∀ (b : Bunch) (p : Int), Q b → Q { b with packetId := p }

def ChanQ (Q : Bunch → Prop) (x : Channel) : Prop := (∀ q ∈ x.inRec, Q q) ∧ (∀ q ∈ x.inPartial, Q q)

theorem ChanQ.took {Q : Bunch → Prop} {x : Channel} (h : ChanQ Q x) (b : Bunch) : ChanQ Q (x.took b) :=
  ⟨by rw [took_inRec]; exact h.1, by rw [took_inPartial]; exact h.2⟩

def OInv (Q : Bunch → Prop) (c : Conn) : Prop := ∀ ch x, c.getChan ch = some x → ChanQ Q x

def OP (Q : Bunch → Prop) (ev : Event) : Prop := ∀ g, ev = .recv g → ∀ q ∈ g, Q q

theorem OInv.of_chans {Q : Bunch → Prop} {c c' : Conn} (h : OInv Q c) (hc : c'.chans = c.chans) : OInv Q c' := ChanInv.of_chans (J := fun _ => ChanQ Q) h hc

theorem OInv.setChan {Q : Bunch → Prop} {c : Conn} (h : OInv Q c) (ch : Nat) (x : Channel) (hx : ChanQ Q x) : OInv Q (c.setChan ch x) :=
  ChanInv.setChan (J := fun _ => ChanQ Q) h ch x hx

theorem OInv.of_rquiet {Q : Bunch → Prop} {c c' : Conn} (h : OInv Q c) (hs : RQuiet c c') : OInv Q c' :=
  ChanInv.of_rquiet (J := fun _ => ChanQ Q) h hs (fun _ _ _ h1 h2 _ hx => ⟨h2 ▸ hx.1, h1 ▸ hx.2⟩)
    (fun _ _ h1 h2 _ => ⟨h2 ▸ fun _ hq => (by cases hq), h1 ▸ fun _ hq => (by cases hq)⟩)

theorem RStep.oinv {Q : Bunch → Prop} {δ : Int} {a b : Conn} (s : RStep Q δ a b) (h : OInv Q a) : OInv Q b ∧ Adds (OP Q) a b := by
  have tk : ∀ {bn δ c0}, Taken Q bn δ a c0 → Q bn ∧ OInv Q c0 := by
    intro bn δ c0 ht
    cases ht with
    | wire _ hb => exact ⟨hb, h⟩
    | queue ch x rest hx hq =>
      have hx' := h ch x hx
      exact ⟨hx'.1 bn (by rw [hq]; exact List.mem_cons_self),
        h.setChan _ _ ⟨fun q hq' => hx'.1 q (by rw [hq]; exact List.mem_cons_of_mem _ hq'), hx'.2⟩⟩
  refine ⟨?_, s.adds (fun ev h => of_not_recv ev (isMem_not_recv ev h)) (fun _ bn ht _ _ g hg => by cases hg; intro q hq; simp at hq; subst hq; exact (tk ht).1)
    (fun ch x _ hx _ _ _ g hg => by cases hg; exact (h ch x hx).2)⟩
  cases s with
  | alloc => exact h.of_chans rfl
  | drop => exact h.of_chans rfl
  | fail => exact h.of_chans (markClose_chans _ _)
  | create _ hn => exact h.of_rquiet (createChan_rquiet _ _ hn)
  | enqueue x bn q hb hx _ _ _ hq =>
    have hx' := h _ x hx
    refine h.setChan _ _ ⟨?_, hx'.2⟩
    intro y hy
    rcases (enqueue_mem bn x.inRec q hq y).mp hy with rfl | hy
    · exact hb
    · exact hx'.1 y hy
  | single x bn ht hx =>
    have hx' := ((tk ht).2 _ x hx).took bn
    exact ((((tk ht).2.setChan _ _ hx').of_rquiet (.of_rsame (noteClose_rsame _ _))).of_chans rfl).of_chans rfl
  | start x bn ht hx =>
    have hx' := ((tk ht).2 _ x hx).took bn
    exact ((tk ht).2.of_chans (freeNodes_chans _ _)).setChan _ _ ⟨hx'.1, by intro q hq; simp at hq; subst hq; exact (tk ht).1⟩
  | append x bn _ ht hx =>
    have hx' := (tk ht).2 _ x hx
    refine (tk ht).2.setChan _ _ ⟨(hx'.took bn).1, ?_⟩
    intro q hq
    simp only [List.mem_append, List.mem_singleton] at hq
    rcases hq with hq | rfl
    · exact hx'.2 q hq
    · exact (tk ht).1
  | refuse x bn ht hx =>
    have hx' := ((tk ht).2 _ x hx).took bn
    exact ((tk ht).2.setChan _ _ hx').of_chans rfl
  | discard x bn ht hx =>
    have hx' := ((tk ht).2 _ x hx).took bn
    exact (((tk ht).2.of_chans (freeNodes_chans _ _)).setChan _ { x.took bn with inPartial := [] } ⟨hx'.1, by intro q hq; cases hq⟩).of_chans rfl
  | stray _ ht => exact (tk ht).2.of_chans rfl
  | deliver ch x last hx =>
    obtain ⟨y, hy, _, heq⟩ := delivered_eq a ch x hx x.inPartial
    rw [heq]
    have g : OInv Q (((x.inPartial.foldl Conn.noteClose a).emit (.recv x.inPartial)).freeNodes x.inPartial.length) :=
      ((h.of_rquiet (.of_rsame (foldl_noteClose_rsame _ _))).of_chans rfl : OInv Q ((x.inPartial.foldl Conn.noteClose a).emit (.recv x.inPartial))).of_chans
        (freeNodes_chans _ _)
    exact g.setChan _ { y with inPartial := [] } ⟨(g _ y hy).1, by intro q hq; cases hq⟩
  | overflow ch x hx =>
    exact ((h.of_chans (freeNodes_chans _ _)).setChan _ { x with inPartial := [] } ⟨(h ch x hx).1, by intro q hq; cases hq⟩).of_chans (markClose_chans _ _)

theorem oinv_side (Q : Bunch → Prop) : RecvSide Q (OInv Q) (OP Q) := ⟨OInv.of_rquiet, of_not_recv, RStep.oinv⟩

theorem QStable.fromWire {Q : Bunch → Prop} (hQ : QStable Q) {c : Conn} {bits : Bits} (hdec : ∀ b rest, decodeBunch bits = .ok b rest → Q b)
    (b' : Bunch) (h : FromWire c bits b') : Q b' := by
  obtain ⟨b, rest, c', x, hd, rfl⟩ := h
  have hb := hQ.pid _ c.inPacketId (hdec b rest hd)
  generalize ({ b with packetId := c.inPacketId } : Bunch) = b1 at hb ⊢
  unfold absSeq
  by_cases hrel : b1.bReliable = true
  · rw [if_pos hrel]; exact hQ.seq _ _ hrel hb
  · rw [if_neg hrel]
    by_cases hp : b1.bPartial = true
    · rw [if_pos hp]; exact hQ.useq _ _ (eq_false_of_ne_true hrel) hb
    · rw [if_neg hp]; exact hb

def encB (b : Bunch) : Bits := (encodeBunch b).getD []

def bodyOf (bs : List Bunch) : Bits := bs.flatMap encB

theorem bodyOf_cons (b : Bunch) (tl : List Bunch) : bodyOf (b :: tl) = encB b ++ bodyOf tl := List.flatMap_cons

theorem encB_decode (b : Bunch) (hwf : WFBunch b) (rest : Bits) : encB b ≠ [] ∧ decodeBunch (encB b ++ rest) = .ok (wireView b) rest := by
  obtain ⟨bits, henc, hdec⟩ := Props.C11.decode_encode b hwf rest
  have he : encB b = bits := by unfold encB; rw [henc]; rfl
  rw [he]
  exact ⟨Props.C11.encode_nonempty b bits henc, hdec⟩

theorem bodyOf_length (bs : List Bunch) (h : ∀ b ∈ bs, WFBunch b) : bs.length ≤ (bodyOf bs).length := by
  induction bs with
  | nil => simp [bodyOf]
  | cons b tl ih =>
    have := ih (fun x hx => h x (List.mem_cons_of_mem _ hx))
    have := List.length_pos_iff.mpr (encB_decode b (h b List.mem_cons_self) []).1
    rw [bodyOf_cons, List.length_append, List.length_cons]; omega

/-- the bunch loop on a concatenation of encodings of well-formed bunches takes them one by one: the bunches it gets from the wire
are theirs -/
theorem bunchLoop_body_steps {Q : Bunch → Prop} (hQ : QStable Q) (bs : List Bunch) : ∀ (fuel : Nat) (c : Conn) (skip : Bool), bs.length ≤ fuel →
    (∀ b ∈ bs, WFBunch b ∧ Q (wireView b)) → RSteps Q 0 c (Conn.bunchLoop fuel c (bodyOf bs) skip).1 := by
  induction bs with
  | nil =>
    intro fuel c skip _ _
    cases fuel with
    | zero => exact .refl _
    | succ f => unfold Conn.bunchLoop; simp [bodyOf]; exact .refl _
  | cons b tl ih =>
    intro fuel c skip hf hall
    cases fuel with
    | zero => simp at hf
    | succ f =>
      obtain ⟨hwf, hq⟩ := hall b List.mem_cons_self
      obtain ⟨hne, hdec⟩ := encB_decode b hwf (bodyOf tl)
      rw [bodyOf_cons, bunchLoop_succ f c _ skip (List.append_ne_nil_of_left_ne_nil hne _), receivedRawBunch_rest, hdec]
      exact ((receivedRawBunch_steps (B := Q) c _ (hQ.fromWire (by intro d rest hd; rw [hdec] at hd; cases hd; exact hq))).trans
        (ih f _ _ (by simp at hf; omega) (fun x hx => hall x (List.mem_cons_of_mem _ hx)))).cast (by omega)

theorem loopOK_body {Q : Bunch → Prop} (hQ : QStable Q) (bits : Bits)
    (hbody : ∀ hd rest, decodePacketHeader bits = .ok (hd, rest) → ∃ bs, rest = bodyOf bs ∧ ∀ b ∈ bs, WFBunch b ∧ Q (wireView b)) : LoopOK Q bits := by
  intro hd rest hdec c
  obtain ⟨bs, rfl, hall⟩ := hbody hd rest hdec
  exact bunchLoop_body_steps hQ bs _ c false (by have := bodyOf_length bs (fun b hb => (hall b hb).1); omega) hall

end Utcp
