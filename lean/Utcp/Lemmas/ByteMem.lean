import Utcp.ByteBuf
/-! Byte arrays as bit sequences: the basic facts behind `Props/C12_Write.lean`, `C12_Read.lean`, `C12_Bytes.lean`. -/
namespace Utcp.BB

def BytesOK (m : Mem) : Prop := ∀ x ∈ m, x < 256
/-- bit `k` of a byte array (LSB first inside each byte) -/
def bit (m : Mem) (k : Nat) : Bool := (m.getD (k / 8) 0).testBit (k % 8)

theorem rd_of_lt (m : Mem) (i : Nat) (h : i < m.length) : rd m i = some (m.getD i 0) := by
  unfold rd; simp [List.getD, List.getElem?_eq_getElem h]

theorem getD_lt_256 (m : Mem) (h : BytesOK m) (i : Nat) : m.getD i 0 < 256 := by
  by_cases hi : i < m.length
  · have : m.getD i 0 = m[i] := by simp [List.getD, List.getElem?_eq_getElem hi]
    rw [this]; exact h _ (List.getElem_mem hi)
  · have : m.getD i 0 = 0 := by simp [List.getD, List.getElem?_eq_none (Nat.le_of_not_lt hi)]
    omega

theorem wr_of_lt (m : Mem) (i v : Nat) (h : i < m.length) : wr m i v = some (m.set i (v % 256)) := by
  unfold wr; simp [h]

theorem bytesOK_set (m : Mem) (h : BytesOK m) (i v : Nat) : BytesOK (m.set i (v % 256)) := by
  intro x hx
  rcases List.mem_or_eq_of_mem_set hx with h1 | h1
  · exact h x h1
  · subst h1; omega

theorem bit_set (m : Mem) (i x k : Nat) (hi : i < m.length) :
    bit (m.set i x) k = if k / 8 = i then x.testBit (k % 8) else bit m k := by
  unfold bit
  by_cases h : k / 8 = i
  · subst h; simp [hi]
  · have : (m.set i x).getD (k / 8) 0 = m.getD (k / 8) 0 := by
      simp [Ne.symm h]
    rw [this]; simp [h]

theorem testBit_byte_hi (x j : Nat) (hx : x < 256) (hj : 8 ≤ j) : x.testBit j = false := by
  apply Nat.testBit_lt_two_pow
  calc x < 2 ^ 8 := hx
    _ ≤ 2 ^ j := Nat.pow_le_pow_right (by omega) hj

theorem testBit_mod256 (x j : Nat) : (x % 256).testBit j = (decide (j < 8) && x.testBit j) := by
  have : (256 : Nat) = 2 ^ 8 := rfl
  rw [this, Nat.testBit_mod_two_pow]

theorem testBit_mask0 (u j : Nat) : ((1 <<< u) - 1).testBit j = decide (j < u) := by
  rw [Nat.one_shiftLeft, Nat.testBit_two_pow_sub_one]

theorem testBit_not32 (x j : Nat) (hj : j < 32) : (not32 x).testBit j = !x.testBit j := by
  unfold not32
  rw [Nat.testBit_xor]
  have : (4294967295 : Nat) = 2 ^ 32 - 1 := rfl
  rw [this, Nat.testBit_two_pow_sub_one]
  simp [hj]

theorem div8 (a r : Nat) (h : r < 8) : (8 * a + r) / 8 = a := by
  rw [Nat.mul_add_div (by decide), Nat.div_eq_of_lt h, Nat.add_zero]
theorem mod8 (a r : Nat) (h : r < 8) : (8 * a + r) % 8 = r := by
  rw [Nat.mul_add_mod, Nat.mod_eq_of_lt h]

/-- every bit position is some bit `r` of some byte `q` -/
theorem exists_byte_offset (k : Nat) : ∃ q r, r < 8 ∧ k = 8 * q + r :=
  ⟨k / 8, k % 8, Nat.mod_lt _ (by decide), (Nat.div_add_mod k 8).symm⟩

/-- where `r` bits from the start of byte `i` on lie inside an array of `len` bytes, so do the `i` bytes before them, and byte `i` itself unless `r = 0` -/
theorem bytes_le_of_bits_le {i r len : Nat} (h : 8 * i + r ≤ 8 * len) : i ≤ len :=
  Nat.le_of_mul_le_mul_left (Nat.le_trans (Nat.le_add_right _ r) h) (by decide)

theorem byte_lt_of_bits_le {i r len : Nat} (hr : 0 < r) (h : 8 * i + r ≤ 8 * len) : i < len :=
  Nat.lt_of_mul_lt_mul_left (Nat.lt_of_lt_of_le (Nat.lt_add_of_pos_right hr) h)

theorem le_div8 (L k : Nat) (h : 8 * L ≤ k) : L ≤ k / 8 := (Nat.le_div_iff_mul_le (by decide)).2 (Nat.mul_comm 8 L ▸ h)

theorem bit_at (m : Mem) (i j : Nat) (hj : j < 8) : bit m (8 * i + j) = (m.getD i 0).testBit j := by
  rw [bit, div8 i j hj, mod8 i j hj]

theorem bit_take (m : Mem) (L k : Nat) : bit (m.take L) k = if k < 8 * L then bit m k else false := by
  unfold bit
  by_cases h : k < 8 * L
  · rw [if_pos h, List.getD_eq_getElem?_getD, List.getElem?_take_of_lt (Nat.div_lt_of_lt_mul h), ← List.getD_eq_getElem?_getD]
  · rw [if_neg h, List.getD_eq_getElem?_getD, List.getElem?_eq_none (Nat.le_trans (List.length_take_le L m) (le_div8 L k (Nat.le_of_not_lt h)))]
    exact Nat.zero_testBit _

theorem bytesOK_take (m : Mem) (h : BytesOK m) (L : Nat) : BytesOK (m.take L) :=
  fun x hx => h x (List.mem_of_mem_take hx)

theorem bytesOK_replicate (n : Nat) : BytesOK (List.replicate n 0) := by
  intro x hx
  have := List.eq_of_mem_replicate hx
  omega

theorem testBit_shl_add (b s i : Nat) : (b <<< s).testBit (s + i) = b.testBit i := by
  rw [Nat.testBit_shiftLeft, Nat.add_sub_cancel_left]
  simp

theorem testBit_shl_lt (b s j : Nat) (h : j < s) : (b <<< s).testBit j = false := by
  rw [Nat.testBit_shiftLeft]
  simp [Nat.not_le.mpr h]

/-- bit `j` of byte `i + 1` seen from bit `d` of byte `i` -/
theorem next_byte_pos (i d j : Nat) (hd : d < 8) : 8 * (i + 1) + j = 8 * i + d + (8 - d + j) := by omega

/-- the window of eight bits from bit `u` of byte `i` on, as `bit_buffer.c` assembles it from bytes `i` and `i + 1` -/
theorem testBit_window (m : Mem) (hm : BytesOK m) (i u j : Nat) (hu : u < 8) (hj : j < 8) :
    ((m.getD i 0 >>> u) ||| (m.getD (i + 1) 0 <<< (8 - u))).testBit j = bit m (8 * i + (u + j)) := by
  rw [Nat.testBit_or, Nat.testBit_shiftRight]
  by_cases h : j < 8 - u
  · rw [testBit_shl_lt _ _ _ h, Bool.or_false, bit_at m i (u + j) (by omega)]
  · obtain ⟨k, rfl⟩ := Nat.exists_eq_add_of_le (Nat.le_of_not_lt h)
    rw [testBit_shl_add, testBit_byte_hi _ _ (getD_lt_256 m hm i) (by omega), Bool.false_or, ← Nat.add_assoc, ← next_byte_pos i u k hu,
      bit_at m (i + 1) k (by omega)]

/-- that window lies in byte `i` and, unless `u = 0`, byte `i + 1`: it ends at bit `u` of byte `i + 1` -/
theorem window_bytes (len i u : Nat) (hfit : 8 * i + u + 8 ≤ 8 * len) : i < len ∧ (u ≠ 0 → i + 1 < len) := by
  have hend : 8 * (i + 1) + u ≤ 8 * len := by rw [Nat.mul_succ, Nat.add_right_comm]; exact hfit
  exact ⟨bytes_le_of_bits_le hend, fun h0 => byte_lt_of_bits_le (Nat.pos_of_ne_zero h0) hend⟩

/-- `m'` is `m` with the bits `[lo, hi)` replaced by `f` (a function of the bit's index in the array): same length, still bytes,
every other bit as it was.  What every store sequence of `bit_buffer.c` is shown to do. -/
def Upd (m m' : Mem) (lo hi : Nat) (f : Nat → Bool) : Prop :=
  m'.length = m.length ∧ BytesOK m' ∧ ∀ k, bit m' k = if lo ≤ k ∧ k < hi then f k else bit m k

/-- the source bit that belongs at destination bit `k` when the run starting at source bit `sb` is copied to destination bit `db` -/
def srcAt (src : Mem) (sb db k : Nat) : Bool := bit src (sb + (k - db))

theorem srcAt_add (src : Mem) (sb db i : Nat) : srcAt src sb db (db + i) = bit src (sb + i) := by
  rw [srcAt, Nat.add_sub_cancel_left]

theorem Upd.of_eq {m : Mem} (hm : BytesOK m) {lo hi : Nat} {f : Nat → Bool} (h : ∀ k, lo ≤ k → k < hi → f k = bit m k) : Upd m m lo hi f :=
  ⟨rfl, hm, fun k => by
    by_cases hk : lo ≤ k ∧ k < hi
    · rw [if_pos hk, h k hk.1 hk.2]
    · rw [if_neg hk]⟩

theorem Upd.empty {m : Mem} (hm : BytesOK m) {lo hi : Nat} (h : hi ≤ lo) (f : Nat → Bool) : Upd m m lo hi f :=
  Upd.of_eq hm fun _ h1 h2 => absurd (Nat.lt_of_le_of_lt h1 h2) (Nat.not_lt.mpr h)

theorem Upd.trans {m m1 m2 : Mem} {a b c : Nat} {f : Nat → Bool} (h1 : Upd m m1 a b f) (h2 : Upd m1 m2 b c f)
    (hab : a ≤ b) (hbc : b ≤ c) : Upd m m2 a c f := by
  refine ⟨h2.1.trans h1.1, h2.2.1, fun k => ?_⟩
  rw [h2.2.2 k, h1.2.2 k]
  by_cases hk : a ≤ k ∧ k < c
  · rw [if_pos hk]
    by_cases hb : b ≤ k
    · rw [if_pos ⟨hb, hk.2⟩]
    · rw [if_neg (fun h => hb h.1), if_pos ⟨hk.1, Nat.lt_of_not_le hb⟩]
  · rw [if_neg hk, if_neg (fun h => hk ⟨Nat.le_trans hab h.1, h.2⟩), if_neg (fun h => hk ⟨h.1, Nat.lt_of_lt_of_le h.2 hbc⟩)]

theorem Upd.congr {m m' : Mem} {lo hi : Nat} {f g : Nat → Bool} (h : Upd m m' lo hi f) (hfg : ∀ k, lo ≤ k → k < hi → f k = g k) :
    Upd m m' lo hi g :=
  ⟨h.1, h.2.1, fun k => by
    rw [h.2.2 k]
    by_cases hk : lo ≤ k ∧ k < hi
    · rw [if_pos hk, if_pos hk, hfg k hk.1 hk.2]
    · rw [if_neg hk, if_neg hk]⟩

theorem Upd.cast {m m' : Mem} {lo hi lo' hi' : Nat} {f : Nat → Bool} (h : Upd m m' lo hi f) (h1 : lo = lo') (h2 : hi = hi') :
    Upd m m' lo' hi' f := by subst h1; subst h2; exact h

/-- one byte stored; `a`, `b` are the ends of the range as the caller counts them -/
theorem wr_upd (m : Mem) (hm : BytesOK m) (i v lo hi : Nat) (f : Nat → Bool) (hlt : i < m.length) (hh : hi ≤ 8)
    (hv : ∀ j, j < 8 → v.testBit j = if lo ≤ j ∧ j < hi then f (8 * i + j) else (m.getD i 0).testBit j)
    {a b : Nat} (ha : a = 8 * i + lo) (hb : b = 8 * i + hi) :
    ∃ m', wr m i v = some m' ∧ Upd m m' a b f := by
  subst ha hb
  refine ⟨_, wr_of_lt m i v hlt, by simp, bytesOK_set m hm i v, fun k => ?_⟩
  rw [bit_set _ _ _ _ hlt]
  have hk := Nat.div_add_mod k 8
  have hj : k % 8 < 8 := Nat.mod_lt _ (by decide)
  by_cases h : k / 8 = i
  · rw [if_pos h, testBit_mod256, hv _ hj, bit, h]
    rw [h] at hk
    generalize k % 8 = j at hk hj
    subst hk
    simp only [hj, decide_true, Bool.true_and, Nat.add_le_add_iff_left, Nat.add_lt_add_iff_left]
  · rw [if_neg h, if_neg]
    intro hr
    apply h
    omega

theorem div8_eq_iff (a q : Nat) : a / 8 = q ↔ 8 * q ≤ a ∧ a < 8 * q + 8 := by omega

/-- `n ≠ 0` bits end in byte `L = (n + 7) / 8 - 1`, which they reach and do not exceed (from `8 * (L + 1) ≤ n + 7 < 8 * (L + 1) + 8`) -/
theorem last_byte_of_bits {n : Nat} (h0 : n ≠ 0) : ∃ L, (n + 7) / 8 = L + 1 ∧ 8 * L ≤ n ∧ n ≤ 8 * (L + 1) := by
  obtain ⟨L, hL⟩ : ∃ L, (n + 7) / 8 = L + 1 :=
    Nat.exists_eq_succ_of_ne_zero (Nat.ne_of_gt (Nat.div_pos (Nat.add_le_add_right (Nat.pos_of_ne_zero h0) 7) (by decide)))
  obtain ⟨hL1, hL2⟩ := (div8_eq_iff _ _).1 hL
  exact ⟨L, hL, Nat.le_of_add_le_add_right (b := 8) (Nat.le_succ_of_le hL1), Nat.le_of_add_le_add_right (b := 8) (Nat.succ_le_of_lt hL2)⟩

theorem wr_two_masks (m : Mem) (hm : BytesOK m) (i A M K lo hi v : Nat) (f : Nat → Bool) (hlt : i < m.length) (hh : hi ≤ 8)
    (hv : v = (A &&& M) ||| (m.getD i 0 &&& K))
    (hM : ∀ j, j < 8 → M.testBit j = decide (lo ≤ j ∧ j < hi)) (hK : ∀ j, j < 8 → K.testBit j = !decide (lo ≤ j ∧ j < hi))
    (hA : ∀ j, lo ≤ j → j < hi → A.testBit j = f (8 * i + j)) {a b : Nat} (ha : a = 8 * i + lo) (hb : b = 8 * i + hi) :
    ∃ m', wr m i v = some m' ∧ Upd m m' a b f := by
  refine wr_upd m hm i v lo hi f hlt hh (fun j hj => ?_) ha hb
  rw [hv, Nat.testBit_or, Nat.testBit_and, Nat.testBit_and, hM j hj, hK j hj]
  by_cases h : lo ≤ j ∧ j < hi
  · rw [if_pos h, hA j h.1 h.2]; simp [h]
  · rw [if_neg h]; simp [h]

/-- `p[i] = (A & M) | (p[i] & ~M)` where, inside the byte, `M` is the bit range `[lo, hi)` -/
theorem wr_masked (m : Mem) (hm : BytesOK m) (i A M lo hi v : Nat) (f : Nat → Bool) (hlt : i < m.length) (hh : hi ≤ 8)
    (hv : v = (A &&& M) ||| (m.getD i 0 &&& not32 M))
    (hM : ∀ j, j < 8 → M.testBit j = decide (lo ≤ j ∧ j < hi))
    (hA : ∀ j, lo ≤ j → j < hi → A.testBit j = f (8 * i + j)) {a b : Nat} (ha : a = 8 * i + lo) (hb : b = 8 * i + hi) :
    ∃ m', wr m i v = some m' ∧ Upd m m' a b f :=
  wr_two_masks m hm i A M (not32 M) lo hi v f hlt hh hv hM
    (fun j hj => by rw [testBit_not32 _ _ (Nat.lt_trans hj (by decide)), hM j hj]) hA ha hb

/-- `p[i] = (p[i] & M) | (A & ~M)` where, inside the byte, `~M` is the bit range `[lo, hi)` -/
theorem wr_masked_compl (m : Mem) (hm : BytesOK m) (i A M lo hi v : Nat) (f : Nat → Bool) (hlt : i < m.length) (hh : hi ≤ 8)
    (hv : v = (m.getD i 0 &&& M) ||| (A &&& not32 M))
    (hM : ∀ j, j < 8 → M.testBit j = !decide (lo ≤ j ∧ j < hi))
    (hA : ∀ j, lo ≤ j → j < hi → A.testBit j = f (8 * i + j)) {a b : Nat} (ha : a = 8 * i + lo) (hb : b = 8 * i + hi) :
    ∃ m', wr m i v = some m' ∧ Upd m m' a b f :=
  wr_two_masks m hm i A (not32 M) M lo hi v f hlt hh (hv.trans (Nat.or_comm _ _))
    (fun j hj => by rw [testBit_not32 _ _ (Nat.lt_trans hj (by decide)), hM j hj, Bool.not_not]) hM hA ha hb

/-- the masks of the copier, inside a byte: `0xFF << d` is `[d, 8)`, its complement `[0, d)` -/
theorem mask255 (d j : Nat) (hj : j < 8) : (255 <<< d).testBit j = decide (d ≤ j ∧ j < 8) := by
  have : (255 : Nat) = 2 ^ 8 - 1 := rfl
  rw [Nat.testBit_shiftLeft, this, Nat.testBit_two_pow_sub_one]
  by_cases h : d ≤ j
  · simp [h, hj, Nat.lt_of_le_of_lt (Nat.sub_le j d) hj]
  · simp [h]

theorem mask255_compl (e j : Nat) (hj : j < 8) : (255 <<< e).testBit j = !decide (0 ≤ j ∧ j < e) := by
  rw [mask255 e j hj]
  by_cases h : e ≤ j
  · simp [h, hj, Nat.not_lt.mpr h]
  · simp [h, Nat.lt_of_not_le h]

end Utcp.BB
