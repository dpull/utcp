import Utcp.Conn
import Utcp.Lemmas.Shrinks
/-! What the functions of the connection model do, stated once: the channel table, field projections of the elementary writes, and an equation
or a case list for each function of `Utcp/Conn.lean` that several proofs read. -/
namespace Utcp
open Gen

theorem find_insertSorted_self (ch : Nat) (x : Channel) (l : List (Nat × Channel)) :
    ((insertSorted ch x l).find? (·.1 == ch)).map (·.2) = some x := by
  induction l with
  | nil => simp [insertSorted]
  | cons p rest ih =>
    obtain ⟨k, v⟩ := p
    simp only [insertSorted]
    by_cases h1 : ch < k
    · simp [h1]
    · by_cases h2 : ch = k
      · subst h2; simp
      · have : (ch == k) = false := beq_false_of_ne h2
        have hk : (k == ch) = false := beq_false_of_ne (Ne.symm h2)
        simp [h1, this, hk, ih]

theorem find_insertSorted_other (ch ch' : Nat) (x : Channel) (l : List (Nat × Channel)) (hne : ch' ≠ ch) :
    ((insertSorted ch x l).find? (·.1 == ch')).map (·.2) = (l.find? (·.1 == ch')).map (·.2) := by
  induction l with
  | nil =>
    have : (ch == ch') = false := beq_false_of_ne (Ne.symm hne)
    simp [insertSorted, this]
  | cons p rest ih =>
    obtain ⟨k, v⟩ := p
    simp only [insertSorted]
    have hc : (ch == ch') = false := beq_false_of_ne (Ne.symm hne)
    by_cases h1 : ch < k
    · simp [h1, hc]
    · by_cases h2 : ch = k
      · subst h2
        simp [hc]
      · have : (ch == k) = false := beq_false_of_ne h2
        simp only [h1, this, if_false, Bool.false_eq_true, List.find?_cons]
        by_cases h3 : (k == ch') = true
        · simp [h3]
        · simp [h3, ih]

theorem mem_insertSorted (ch : Nat) (x : Channel) (l : List (Nat × Channel)) (p : Nat × Channel) (h : p ∈ insertSorted ch x l) :
    p = (ch, x) ∨ p ∈ l := by
  induction l with
  | nil => simpa [insertSorted] using h
  | cons kv rest ih =>
    obtain ⟨k, v⟩ := kv
    rw [insertSorted] at h
    by_cases h1 : ch < k
    · rw [if_pos h1] at h
      exact List.mem_cons.mp h
    · rw [if_neg h1] at h
      by_cases h2 : (ch == k) = true
      · rw [if_pos h2] at h
        rcases List.mem_cons.mp h with h | h
        · exact .inl (by rw [h, beq_iff_eq.mp h2])
        · exact .inr (List.mem_cons_of_mem _ h)
      · rw [if_neg h2] at h
        rcases List.mem_cons.mp h with h | h
        · exact .inr (h ▸ List.mem_cons_self)
        · exact (ih h).imp id (List.mem_cons_of_mem _)

theorem find_filter_ne (l : List (Nat × Channel)) (k ch : Nat) (h : ch ≠ k) :
    (l.filter (·.1 != k)).find? (·.1 == ch) = l.find? (·.1 == ch) := by
  rw [List.find?_filter]
  congr; funext a
  by_cases ha : a.1 = ch <;> simp [ha, h]

theorem find_filter_self (l : List (Nat × Channel)) (k : Nat) : (l.filter (·.1 != k)).find? (·.1 == k) = none := by
  simp [List.find?_filter]

@[simp] theorem getChan_setChan_self (c : Conn) (ch : Nat) (x : Channel) : (c.setChan ch x).getChan ch = some x := by
  unfold Conn.setChan Conn.getChan
  exact find_insertSorted_self ch x c.chans

theorem getChan_setChan_other {c : Conn} {ch ch' : Nat} {x : Channel} (h : ch' ≠ ch) : (c.setChan ch x).getChan ch' = c.getChan ch' := by
  unfold Conn.setChan Conn.getChan
  exact find_insertSorted_other ch ch' x c.chans h

theorem no_chan_of_chans_nil {c : Conn} (hc : c.chans = []) (ch : Nat) (x : Channel) : c.getChan ch ≠ some x := by
  unfold Conn.getChan; rw [hc]; exact nofun

theorem getChan_of_chans {c c' : Conn} (hc : c'.chans = c.chans) (ch : Nat) : c'.getChan ch = c.getChan ch := by
  unfold Conn.getChan; rw [hc]

theorem mem_of_getChan {c : Conn} {ch : Nat} {x : Channel} (h : c.getChan ch = some x) : (ch, x) ∈ c.chans := by
  unfold Conn.getChan at h
  obtain ⟨p, hf, rfl⟩ := Option.map_eq_some_iff.mp h
  have hk : p.1 = ch := by simpa using List.find?_some hf
  exact hk ▸ List.mem_of_find?_eq_some hf

/-- taking what is entered under `k` out of the table leaves the other indices alone -/
theorem getChan_of_filter_ne {c c' : Conn} {k ch : Nat} (hc : c'.chans = c.chans.filter (·.1 != k)) (h : ch ≠ k) : c'.getChan ch = c.getChan ch := by
  unfold Conn.getChan; rw [hc, find_filter_ne _ _ _ h]

theorem getChan_of_filter_self {c c' : Conn} {k : Nat} (hc : c'.chans = c.chans.filter (·.1 != k)) : c'.getChan k = none := by
  unfold Conn.getChan; rw [hc, find_filter_self]; rfl

@[simp] theorem emit_log (c : Conn) (e : Event) : (c.emit e).log = e :: c.log := rfl
@[simp] theorem emit_chans (c : Conn) (e : Event) : (c.emit e).chans = c.chans := rfl
@[simp] theorem emit_getChan (c : Conn) (e : Event) (ch : Nat) : (c.emit e).getChan ch = c.getChan ch := rfl
@[simp] theorem emit_outPacketId (c : Conn) (e : Event) : (c.emit e).outPacketId = c.outPacketId := rfl
@[simp] theorem emit_notify (c : Conn) (e : Event) : (c.emit e).notify = c.notify := rfl
@[simp] theorem emit_bClose (c : Conn) (e : Event) : (c.emit e).bClose = c.bClose := rfl
@[simp] theorem emit_sendActive (c : Conn) (e : Event) : (c.emit e).sendActive = c.sendActive := rfl
@[simp] theorem emit_inPacketId (c : Conn) (e : Event) : (c.emit e).inPacketId = c.inPacketId := rfl
@[simp] theorem setChan_log (c : Conn) (ch : Nat) (x : Channel) : (c.setChan ch x).log = c.log := rfl
@[simp] theorem setChan_outPacketId (c : Conn) (ch : Nat) (x : Channel) : (c.setChan ch x).outPacketId = c.outPacketId := rfl
@[simp] theorem setChan_notify (c : Conn) (ch : Nat) (x : Channel) : (c.setChan ch x).notify = c.notify := rfl
@[simp] theorem setChan_inPacketId (c : Conn) (ch : Nat) (x : Channel) : (c.setChan ch x).inPacketId = c.inPacketId := rfl

theorem foldl_emit_eq {α} (ev : Event) (l : List α) (c : Conn) :
    l.foldl (fun c _ => c.emit ev) c = { c with log := List.replicate l.length ev ++ c.log } := by
  induction l generalizing c with
  | nil => rfl
  | cons _ rest ih =>
    rw [List.foldl_cons, ih, List.length_cons, List.replicate_succ']
    simp [Conn.emit]

theorem freeNodes_eq (c : Conn) (k : Nat) : c.freeNodes k = { c with log := List.replicate k (.free .node) ++ c.log } := by
  unfold Conn.freeNodes; rw [foldl_emit_eq, List.length_range]

@[simp] theorem freeNodes_chans (c : Conn) (k : Nat) : (c.freeNodes k).chans = c.chans := by rw [freeNodes_eq]
@[simp] theorem freeNodes_getChan (c : Conn) (k : Nat) (ch : Nat) : (c.freeNodes k).getChan ch = c.getChan ch := getChan_of_chans (freeNodes_chans c k) ch
theorem freeNodes_getChan_some {c : Conn} {ch : Nat} {x : Channel} {k : Nat} (h : c.getChan ch = some x) : (c.freeNodes k).getChan ch = some x :=
  (freeNodes_getChan c k ch).trans h

theorem freeChan_eq (c : Conn) (x : Channel) :
    c.freeChan x = { c with log := .free .chan :: (List.replicate (x.inRec.length + x.outRec.length + x.inPartial.length) (.free .node) ++ c.log) } := by
  unfold Conn.freeChan
  simp only [freeNodes_eq, Conn.emit, ← List.append_assoc, List.replicate_append_replicate]
  rw [show x.inPartial.length + (x.outRec.length + x.inRec.length) = x.inRec.length + x.outRec.length + x.inPartial.length by omega]

theorem freeChan_chans (c : Conn) (x : Channel) : (c.freeChan x).chans = c.chans := by rw [freeChan_eq]

theorem markClose_eq (c : Conn) (r : Nat) : ∃ b cr, c.markClose r = { c with bClose := b, closeReason := cr } := by
  unfold Conn.markClose; split
  · exact ⟨_, _, rfl⟩
  · exact ⟨_, _, rfl⟩

theorem markClose_log (c : Conn) (r : Nat) : (c.markClose r).log = c.log := by obtain ⟨_, _, h⟩ := markClose_eq c r; rw [h]
theorem markClose_chans (c : Conn) (r : Nat) : (c.markClose r).chans = c.chans := by obtain ⟨_, _, h⟩ := markClose_eq c r; rw [h]
theorem markClose_getChan (c : Conn) (r : Nat) (ch : Nat) : (c.markClose r).getChan ch = c.getChan ch := getChan_of_chans (markClose_chans c r) ch
theorem markClose_outPacketId (c : Conn) (r : Nat) : (c.markClose r).outPacketId = c.outPacketId := by obtain ⟨_, _, h⟩ := markClose_eq c r; rw [h]
theorem markClose_notify (c : Conn) (r : Nat) : (c.markClose r).notify = c.notify := by obtain ⟨_, _, h⟩ := markClose_eq c r; rw [h]
theorem markClose_inPacketId (c : Conn) (r : Nat) : (c.markClose r).inPacketId = c.inPacketId := by obtain ⟨_, _, h⟩ := markClose_eq c r; rw [h]

theorem createChan_eq (c : Conn) (ch : Nat) : ∃ evs cap, (∀ ev ∈ evs, ev = .alloc .chan ∨ ev = .alloc .open_ ∨ ev = .realloc .open_) ∧
    c.createChan ch = ({ c with log := evs ++ c.log, openCap := cap } : Conn).setChan ch
      { inReliable := c.initInReliable, outReliable := c.initOutReliable } := by
  unfold Conn.createChan Conn.emit
  dsimp only
  by_cases h1 : c.chans.length < c.openCap
  · refine ⟨[.alloc .chan], c.openCap, by decide, ?_⟩
    rw [if_pos h1]
    rfl
  · by_cases h2 : (c.openCap == 0) = true
    · refine ⟨[.alloc .open_, .alloc .chan], 32, by decide, ?_⟩
      rw [if_neg h1, if_pos h2]
      rfl
    · refine ⟨[.realloc .open_, .alloc .chan], c.openCap * 2, by decide, ?_⟩
      rw [if_neg h1, if_neg h2]
      rfl

theorem createChan_outPacketId (c : Conn) (ch : Nat) : (c.createChan ch).outPacketId = c.outPacketId := by
  obtain ⟨_, _, _, h⟩ := createChan_eq c ch; rw [h]; rfl

theorem getOrCreateChan_existing (c : Conn) (b : Bunch) (inc : Bool) (x : Channel) (h : c.getChan b.chIndex = some x) :
    c.getOrCreateChan b inc = (c, some x) := by
  unfold Conn.getOrCreateChan; rw [h]

theorem getOrCreateChan_snd (c : Conn) (b : Bunch) (inc : Bool) : (c.getOrCreateChan b inc).2 = (c.getOrCreateChan b inc).1.getChan b.chIndex := by
  unfold Conn.getOrCreateChan
  split
  · rename_i x hx; exact hx.symm
  · rename_i hn; split
    · rfl
    · exact hn.symm

/-- `utcp_get_channel` either leaves the connection as it is, or — no such channel, and the bunch opens one or is an incoming reliable one — creates the channel -/
theorem getOrCreateChan_cases (c : Conn) (b : Bunch) (inc : Bool) :
    ((c.getOrCreateChan b inc).1 = c ∧ ((c.getChan b.chIndex).isSome ∨ (b.bOpen || (inc && b.bReliable)) = false)) ∨
    (c.getChan b.chIndex = none ∧ (b.bOpen || (inc && b.bReliable)) = true ∧ (c.getOrCreateChan b inc).1 = c.createChan b.chIndex) := by
  unfold Conn.getOrCreateChan
  split
  · rename_i x hx; exact .inl ⟨rfl, .inl (by rw [hx]; rfl)⟩
  · rename_i hn
    by_cases hf : (b.bOpen || (inc && b.bReliable)) = true
    · rw [if_pos hf]; exact .inr ⟨hn, hf, rfl⟩
    · rw [if_neg hf]; exact .inl ⟨rfl, .inr (by simpa using hf)⟩

theorem getOrCreateChan_some (c : Conn) (b : Bunch) (inc : Bool) (h : (c.getChan b.chIndex).isSome ∨ b.bOpen = true ∨ (inc = true ∧ b.bReliable = true)) :
    ∃ x, (c.getOrCreateChan b inc).1.getChan b.chIndex = some x := by
  refine Option.isSome_iff_exists.mp ?_
  rcases getOrCreateChan_cases c b inc with ⟨he, hc⟩ | ⟨_, _, he⟩ <;> rw [he]
  · rcases hc with hc | hc
    · exact hc
    · rcases h with h | h | h
      · exact h
      · simp [h] at hc
      · simp [h.1, h.2] at hc
  · obtain ⟨_, _, _, heq⟩ := createChan_eq c b.chIndex
    rw [heq, getChan_setChan_self]; rfl

theorem getOrCreateChan_outPacketId (c : Conn) (b : Bunch) (inc : Bool) : (c.getOrCreateChan b inc).1.outPacketId = c.outPacketId := by
  rcases getOrCreateChan_cases c b inc with ⟨he, _⟩ | ⟨_, _, he⟩ <;> rw [he]
  exact createChan_outPacketId c _

@[simp] theorem markClosed_bClose (x : Channel) (r : Nat) : (x.markClosed r).bClose = true := by
  unfold Channel.markClosed; split <;> simp_all
@[simp] theorem markClosed_outRec (x : Channel) (r : Nat) : (x.markClosed r).outRec = x.outRec := by
  unfold Channel.markClosed; split <;> rfl
@[simp] theorem markClosed_inRec (x : Channel) (r : Nat) : (x.markClosed r).inRec = x.inRec := by
  unfold Channel.markClosed; split <;> rfl
@[simp] theorem markClosed_inPartial (x : Channel) (r : Nat) : (x.markClosed r).inPartial = x.inPartial := by
  unfold Channel.markClosed; split <;> rfl
@[simp] theorem markClosed_inReliable (x : Channel) (r : Nat) : (x.markClosed r).inReliable = x.inReliable := by
  unfold Channel.markClosed; split <;> rfl
@[simp] theorem markClosed_outReliable (x : Channel) (r : Nat) : (x.markClosed r).outReliable = x.outReliable := by
  unfold Channel.markClosed; split <;> rfl
@[simp] theorem oweTeardown_getChan (c : Conn) (ch : Nat) : c.oweTeardown.getChan ch = c.getChan ch := rfl
@[simp] theorem oweTeardown_log (c : Conn) : c.oweTeardown.log = c.log := rfl
@[simp] theorem oweTeardown_outPacketId (c : Conn) : c.oweTeardown.outPacketId = c.outPacketId := rfl
@[simp] theorem oweTeardown_has (c : Conn) : c.oweTeardown.hasChannelClose = true := rfl

/-- the timeout test of `utcp_update`: more than 120 s after the last receive stamp it marks the connection closed (reason 6, ConnectionTimeout), otherwise it does nothing -/
theorem checkTimeout_of_late {e : Env} {c : Conn} (h : e.nowMs - c.lastRecvMs > 120000) : c.checkTimeout e = c.markClose 6 := by
  unfold Conn.checkTimeout
  rw [show connectTimeoutMs = 120000 by decide, show crConnectionTimeout = 6 by decide, decide_eq_true h]; rfl

theorem checkTimeout_of_not_late {e : Env} {c : Conn} (h : e.nowMs - c.lastRecvMs ≤ 120000) : c.checkTimeout e = c := by
  unfold Conn.checkTimeout
  rw [show connectTimeoutMs = 120000 by decide, decide_eq_false (Int.not_lt.mpr h)]; rfl

theorem checkTimeout_cases (e : Env) (c : Conn) : c.checkTimeout e = c ∨ c.checkTimeout e = c.markClose 6 := by
  by_cases h : e.nowMs - c.lastRecvMs > 120000
  · exact .inr (checkTimeout_of_late h)
  · exact .inl (checkTimeout_of_not_late (Int.not_lt.mp h))

theorem checkTimeout_chans (e : Env) (c : Conn) : (c.checkTimeout e).chans = c.chans := by
  rcases checkTimeout_cases e c with h | h <;> rw [h]; exact markClose_chans _ _

theorem checkTimeout_getChan (e : Env) (c : Conn) (ch : Nat) : (c.checkTimeout e).getChan ch = c.getChan ch := getChan_of_chans (checkTimeout_chans e c) ch

theorem noteClose_of_not_close (c : Conn) (b : Bunch) (h : b.bClose = false) : c.noteClose b = c := by
  unfold Conn.noteClose; rw [h]; rfl

/-- what `utcp_note_close` does for a close bunch: the connection may be marked (control channel), and the channel, if it is there, is
marked closed and a teardown noted as owed -/
theorem noteClose_cases (c : Conn) (b : Bunch) : c.noteClose b = c ∨ (b.bClose = true ∧ ∃ c1, (c1 = c ∨ c1 = c.markClose crControlChannelClose) ∧
    ((c1.getChan b.chIndex = none ∧ c.noteClose b = c1) ∨
      ∃ x, c1.getChan b.chIndex = some x ∧ c.noteClose b = (c1.setChan b.chIndex (x.markClosed b.closeReason)).oweTeardown)) := by
  unfold Conn.noteClose
  cases hb : b.bClose with
  | false => exact .inl rfl
  | true =>
    refine .inr ⟨rfl, if (b.chIndex == 0) = true then c.markClose crControlChannelClose else c, by split <;> simp, ?_⟩
    dsimp only
    generalize (if (b.chIndex == 0) = true then c.markClose crControlChannelClose else c) = c1
    cases hx : c1.getChan b.chIndex with
    | none => exact .inl ⟨rfl, rfl⟩
    | some x => exact .inr ⟨x, rfl, rfl⟩

theorem noteClose_closing (c : Conn) (b : Bunch) (x : Channel) (hcl : b.bClose = true) (hx : c.getChan b.chIndex = some x) :
    ∃ c1, (c1 = c ∨ c1 = c.markClose crControlChannelClose) ∧
      c.noteClose b = (c1.setChan b.chIndex (x.markClosed b.closeReason)).oweTeardown := by
  have hg : (if b.chIndex == 0 then c.markClose crControlChannelClose else c).getChan b.chIndex = some x := by
    split
    · rw [markClose_getChan]; exact hx
    · exact hx
  refine ⟨if b.chIndex == 0 then c.markClose crControlChannelClose else c, by split <;> simp, ?_⟩
  unfold Conn.noteClose
  rw [hcl, if_neg (by decide)]
  dsimp only
  rw [hg]

theorem noteClose_getChan_isSome (c : Conn) (b : Bunch) (ch : Nat) (h : (c.getChan ch).isSome) : ((c.noteClose b).getChan ch).isSome := by
  rcases noteClose_cases c b with he | ⟨_, c1, hc1, hn⟩
  · rw [he]; exact h
  · have hc : (c1.getChan ch).isSome := by rcases hc1 with rfl | rfl; exact h; rw [markClose_getChan]; exact h
    rcases hn with ⟨_, he⟩ | ⟨x, _, he⟩ <;> rw [he]
    · exact hc
    · rw [oweTeardown_getChan]
      by_cases hch : ch = b.chIndex
      · subst hch; simp
      · rw [getChan_setChan_other hch]; exact hc

theorem noteClose_getChan (c : Conn) (b : Bunch) (ch : Nat) : (c.noteClose b).getChan ch = c.getChan ch ∨ (b.bClose = true ∧ b.chIndex = ch) := by
  rcases noteClose_cases c b with he | ⟨hcl, c1, hc1, hn⟩
  · rw [he]; exact .inl rfl
  · have hc : c1.getChan ch = c.getChan ch := by rcases hc1 with rfl | rfl; rfl; exact markClose_getChan _ _ _
    rcases hn with ⟨_, he⟩ | ⟨x, _, he⟩ <;> rw [he]
    · exact .inl hc
    · by_cases hch : ch = b.chIndex
      · exact .inr ⟨hcl, hch.symm⟩
      · rw [oweTeardown_getChan, getChan_setChan_other hch]; exact .inl hc

theorem foldl_noteClose_getChan (g : List Bunch) (ch : Nat) : ∀ c : Conn,
    (g.foldl Conn.noteClose c).getChan ch = c.getChan ch ∨ ∃ q ∈ g, q.bClose = true ∧ q.chIndex = ch := by
  induction g with
  | nil => intro c; exact .inl rfl
  | cons b rest ih =>
    intro c
    rcases ih (c.noteClose b) with h | ⟨q, hq, h⟩
    · rcases noteClose_getChan c b ch with h' | h'
      · exact .inl (h.trans h')
      · exact .inr ⟨b, List.mem_cons_self, h'⟩
    · exact .inr ⟨q, List.mem_cons_of_mem _ hq, h⟩

theorem noteClose_outPacketId (c : Conn) (b : Bunch) : (c.noteClose b).outPacketId = c.outPacketId := by
  rcases noteClose_cases c b with he | ⟨_, c1, hc1, hn⟩
  · rw [he]
  · have hc : c1.outPacketId = c.outPacketId := by rcases hc1 with rfl | rfl; rfl; exact markClose_outPacketId _ _
    rcases hn with ⟨_, he⟩ | ⟨x, _, he⟩ <;> rw [he] <;> exact hc

@[simp] theorem startPacket_outPacketId (c : Conn) : c.startPacket.outPacketId = c.outPacketId := rfl
@[simp] theorem startPacket_sendActive (c : Conn) : c.startPacket.sendActive = true := rfl
@[simp] theorem startPacket_sendBody (c : Conn) : c.startPacket.sendBody = [] := rfl

@[simp] theorem flushNow_outPacketId (e : Env) (c : Conn) : (c.flushNow e).outPacketId = c.outPacketId + 1 := rfl
@[simp] theorem flushNow_log (e : Env) (c : Conn) : (c.flushNow e).log = .out (bitsToBytes (c.packetBits e)) :: c.log := rfl
@[simp] theorem flushNow_sendActive (e : Env) (c : Conn) : (c.flushNow e).sendActive = false := rfl
@[simp] theorem flushNow_lastSendMs (e : Env) (c : Conn) : (c.flushNow e).lastSendMs = e.nowMs := rfl
@[simp] theorem flushNow_chans (e : Env) (c : Conn) : (c.flushNow e).chans = c.chans := rfl

@[simp] theorem startPacket_log (c : Conn) : c.startPacket.log = c.log := rfl
@[simp] theorem startPacket_chans (c : Conn) : c.startPacket.chans = c.chans := rfl

theorem seq_num_init_mod (x : Int) : seq_num_init (x % 65536) = x % 16384 := by
  unfold seq_num_init; omega

theorem seq_num_inc_range (a k : Int) : 0 ≤ seq_num_inc a k ∧ seq_num_inc a k < 16384 := by
  rw [seq_num_inc, seq_num_init_mod]; omega

theorem seqInit_header (c : Conn) (i o : Int) : (c.seqInit i o).notify.hist.length = 256 ∧
    ((0 ≤ (c.seqInit i o).notify.outSeq ∧ (c.seqInit i o).notify.outSeq < 16384) ∧
     (0 ≤ (c.seqInit i o).notify.inAckSeq ∧ (c.seqInit i o).notify.inAckSeq < 16384)) := by
  refine ⟨by show (List.replicate histLen false).length = 256; rw [List.length_replicate]; decide, ?_⟩
  show (0 ≤ seq_num_init (o % 65536) ∧ seq_num_init (o % 65536) < 16384) ∧ (0 ≤ seq_num_init ((i - 1) % 65536) ∧ seq_num_init ((i - 1) % 65536) < 16384)
  rw [seq_num_init_mod, seq_num_init_mod]
  omega

theorem finalHeader_startPacket (c : Conn) : c.startPacket.finalHeader.2 = encodeNotifHeader (c.notify.headerWith c.notify.curWords) := by
  unfold Conn.finalHeader Notify.fillRefresh
  rw [if_neg (show ¬ c.startPacket.notify.curWords > c.startPacket.notify.writtenWords from Nat.lt_irrefl c.notify.curWords)]
  rfl

theorem finalHeader_fst (c : Conn) : ∃ w, c.finalHeader.1 = { c.notify with writtenInAckSeq := w } := by
  unfold Conn.finalHeader Notify.fillRefresh
  split
  · rename_i n h heq
    split at heq
    · cases heq
    · cases heq; exact ⟨_, rfl⟩
  · exact ⟨_, rfl⟩

theorem flushNow_notify (e : Env) (c : Conn) : ∃ r w, (c.flushNow e).notify =
    { c.notify with ackRecord := r, writtenInAckSeq := w, writtenWords := 0, outSeq := seq_num_inc c.notify.outSeq 1 } := by
  obtain ⟨w, hw⟩ := finalHeader_fst c
  exact ⟨_, w, by show c.finalHeader.1.commit = _; rw [hw]; rfl⟩

/-- `utcp_send_flush` emits iff the endpoint is connected and something is buffered or 200 ms have passed since the last emission -/
theorem flushDue_iff (e : Env) (c : Conn) : c.flushDue e = true ↔ c.connected = true ∧ (c.sendActive = true ∨ e.nowMs - c.lastSendMs ≥ 200) := by
  unfold Conn.flushDue; rw [show keepAliveMs = 200 by decide, Bool.and_eq_true, Bool.or_eq_true, decide_eq_true_eq]

theorem flush_of_due {e : Env} {c : Conn} (h : c.flushDue e = true) : c.flush e = (if c.sendActive then c else c.startPacket).flushNow e := by
  unfold Conn.flush; rw [h]; rfl

theorem flush_of_not_due {e : Env} {c : Conn} (h : ¬ c.flushDue e = true) : c.flush e = c := by
  unfold Conn.flush; rw [Bool.not_eq_true] at h; rw [h]; rfl

theorem flush_of_active (e : Env) (c : Conn) (ha : c.sendActive = true) (hc : c.connected = true) : c.flush e = c.flushNow e := by
  rw [flush_of_due ((flushDue_iff e c).mpr ⟨hc, .inl ha⟩), if_pos ha]

theorem flush_outPacketId_ge (e : Env) (c : Conn) : c.outPacketId ≤ (c.flush e).outPacketId := by
  by_cases h : c.flushDue e = true
  · rw [flush_of_due h]
    split <;> simp [startPacket_outPacketId] <;> omega
  · rw [flush_of_not_due h]; exact Int.le_refl _

theorem prepareWrite_outPacketId_ge (e : Env) (c : Conn) (n : Nat) : c.outPacketId ≤ (c.prepareWrite e n).outPacketId := by
  unfold Conn.prepareWrite
  have := flush_outPacketId_ge e c
  dsimp only
  split <;> split <;> simp [startPacket_outPacketId] <;> omega

/-! ### `SendRawBunch` once the checks have passed -/

/-- the two steps of writing are `WriteBitsToSendBuffer` -/
theorem prepareWrite_writeInternal (e : Env) (c : Conn) (hdr data : Bits) :
    (c.prepareWrite e (hdr.length + data.length)).writeInternal e (hdr ++ data) = c.writeBits e (hdr ++ data) := by
  unfold Conn.writeBits; rw [List.length_append]

theorem writeBits_snd (e : Env) (c : Conn) (hdr data : Bits) :
    (c.writeBits e (hdr ++ data)).2 = (c.prepareWrite e (hdr.length + data.length)).outPacketId := by
  unfold Conn.writeBits; rw [List.length_append]; rfl

theorem addOutRec_existing {c : Conn} {ch : Nat} {x : Channel} (pid : Int) (bits : Bits) (h : c.getChan ch = some x) :
    c.addOutRec ch pid bits = c.setChan ch { x with outRec := x.outRec ++ [{ packetId := pid, bits := bits }] } := by
  unfold Conn.addOutRec; rw [h]

theorem addOutRec_log (c : Conn) (ch : Nat) (pid : Int) (bits : Bits) : (c.addOutRec ch pid bits).log = c.log := by
  unfold Conn.addOutRec; split <;> rfl

/-- a reliable bunch takes the next sequence number of its channel, is written with it, and a record of what was written is kept under
the id of the packet it went into -/
theorem sendCommit_reliable (e : Env) (c : Conn) (b : Bunch) (h0 : Bits) (x : Channel) (hr : b.bReliable = true)
    (hx : ((c.getOrCreateChan b false).1.noteClose b).getChan b.chIndex = some x) :
    c.sendCommit e b h0 =
      ((((((c.getOrCreateChan b false).1.noteClose b).setChan b.chIndex { x with outReliable := x.outReliable + 1 }).writeBits e
            ((encodeBunchHeader { b with chSeq := x.outReliable + 1 }).getD h0 ++ b.data)).1.emit (.alloc .node)).addOutRec b.chIndex
          ((((c.getOrCreateChan b false).1.noteClose b).setChan b.chIndex { x with outReliable := x.outReliable + 1 }).writeBits e
            ((encodeBunchHeader { b with chSeq := x.outReliable + 1 }).getD h0 ++ b.data)).2
          ((encodeBunchHeader { b with chSeq := x.outReliable + 1 }).getD h0 ++ b.data),
       ((((c.getOrCreateChan b false).1.noteClose b).setChan b.chIndex { x with outReliable := x.outReliable + 1 }).writeBits e
            ((encodeBunchHeader { b with chSeq := x.outReliable + 1 }).getD h0 ++ b.data)).2) := by
  unfold Conn.sendCommit
  dsimp only
  rw [hx]
  simp only [if_pos hr]
  rw [prepareWrite_writeInternal, ← writeBits_snd]

/-- the channel is gone: nothing is written (the model's reading of a branch the C code cannot reach) -/
theorem sendCommit_none (e : Env) (c : Conn) (b : Bunch) (h0 : Bits) (hx : ((c.getOrCreateChan b false).1.noteClose b).getChan b.chIndex = none) :
    c.sendCommit e b h0 = ((c.getOrCreateChan b false).1.noteClose b, -2) := by
  unfold Conn.sendCommit; dsimp only; rw [hx]

theorem sendCommit_unreliable (e : Env) (c : Conn) (b : Bunch) (h0 : Bits) (x : Channel) (hr : b.bReliable = false)
    (hx : ((c.getOrCreateChan b false).1.noteClose b).getChan b.chIndex = some x) :
    c.sendCommit e b h0 = ((c.getOrCreateChan b false).1.noteClose b).writeBits e (h0 ++ b.data) := by
  unfold Conn.sendCommit
  dsimp only
  rw [hx]
  simp only [hr, Bool.false_eq_true, if_false]
  rw [prepareWrite_writeInternal, ← writeBits_snd]

/-- `utcp_send_bunch` only rewrites the return value of `SendRawBunch` -/
theorem sendBunch_fst (e : Env) (c : Conn) (b : Bunch) : (c.sendBunch e b).1 = (c.sendRaw e b).1 := by
  unfold Conn.sendBunch; dsimp only; split <;> rfl

theorem sendBunch_refused (e : Env) {c : Conn} {b : Bunch} {err : Int} (h : c.sendCheck b = .inl err) : (c.sendBunch e b).1 = c := by
  rw [sendBunch_fst]; unfold Conn.sendRaw; rw [h]

theorem sendBunch_accepted (e : Env) {c : Conn} {b : Bunch} {h0 : Bits} (h : c.sendCheck b = .inr h0) : (c.sendBunch e b).1 = (c.sendCommit e b h0).1 := by
  rw [sendBunch_fst]; unfold Conn.sendRaw; rw [h]

/-- what the validation of `SendRawBunch` answers: a negative code exactly for a request with one of the four defects, otherwise the
measured header -/
theorem sendCheck_cases {c : Conn} {b : Bunch} {x : Int ⊕ Bits} (hx : c.sendCheck b = x) :
    match x with
    | .inl err => err < 0 ∧ (b.chIndex ≥ 32767 ∨ ((c.getChan b.chIndex).isNone ∧ b.bOpen = false) ∨ encodeBunchHeader { b with chSeq := 0 } = none
        ∨ ∃ h0, encodeBunchHeader { b with chSeq := 0 } = some h0 ∧ h0.length + b.data.length > 7844)
    | .inr h0 => b.chIndex < 32767 ∧ ((c.getChan b.chIndex).isSome ∨ b.bOpen = true) ∧ encodeBunchHeader { b with chSeq := 0 } = some h0
        ∧ h0.length + b.data.length ≤ 7844 := by
  unfold Conn.sendCheck at hx
  rw [show maxChannels = 32767 by decide, show maxSingleBunchBits = 7844 by decide] at hx
  by_cases hlt : b.chIndex ≥ 32767
  · rw [if_pos hlt] at hx
    subst hx
    exact ⟨by decide, .inl hlt⟩
  rw [if_neg hlt] at hx
  by_cases hch : ((c.getChan b.chIndex).isNone && !b.bOpen) = true
  · rw [if_pos hch] at hx
    subst hx
    exact ⟨by decide, .inr (.inl (by simpa using hch))⟩
  rw [if_neg hch] at hx
  have hch' : (c.getChan b.chIndex).isSome ∨ b.bOpen = true := by
    cases hg : c.getChan b.chIndex
    · right; simpa [hg] using hch
    · left; rfl
  cases he : encodeBunchHeader { b with chSeq := 0 } with
  | none =>
    rw [he] at hx
    subst hx
    exact ⟨by decide, .inr (.inr (.inl rfl))⟩
  | some h0 =>
    rw [he] at hx
    dsimp only at hx
    by_cases hlen : h0.length + b.data.length > 7844
    · rw [if_pos hlen] at hx
      subst hx
      exact ⟨by decide, .inr (.inr (.inr ⟨h0, rfl, hlen⟩))⟩
    · rw [if_neg hlen] at hx
      subst hx
      exact ⟨Nat.lt_of_not_le hlt, hch', rfl, Nat.le_of_not_lt hlen⟩

/-! ### `remove_ougoing_data` -/

theorem removeOutgoing_perm (pid : Int) (l : List OutNode) : ((removeOutgoing pid l).1 ++ (removeOutgoing pid l).2).Perm l := by
  induction l with
  | nil => exact List.Perm.refl _
  | cons n rest ih =>
    unfold removeOutgoing
    split
    · exact ih.cons n
    · split
      · exact List.Perm.refl _
      · exact List.perm_middle.trans (ih.cons n)

theorem removeOutgoing_mem_iff (pid : Int) (l : List OutNode) (n : OutNode) :
    n ∈ l ↔ n ∈ (removeOutgoing pid l).1 ∨ n ∈ (removeOutgoing pid l).2 :=
  (removeOutgoing_perm pid l).mem_iff.symm.trans List.mem_append

theorem removeOutgoing_lengths (pid : Int) (l : List OutNode) : (removeOutgoing pid l).1.length + (removeOutgoing pid l).2.length = l.length := by
  rw [← List.length_append]; exact (removeOutgoing_perm pid l).length_eq

theorem removeOutgoing_pid (pid : Int) (l : List OutNode) : ∀ n ∈ (removeOutgoing pid l).1, n.packetId = pid := by
  induction l with
  | nil => intro n hn; simp [removeOutgoing] at hn
  | cons a rest ih =>
    intro n hn
    unfold removeOutgoing at hn
    split at hn
    · rename_i h
      simp only [List.mem_cons] at hn
      rcases hn with rfl | hn
      · simpa using h
      · exact ih n hn
    · split at hn
      · simp at hn
      · exact ih n hn

/-- `enqueue_incoming_data` against the head of the queue: refused, put in front, or passed on to the rest -/
theorem enqueueIncoming_cons (b a : Bunch) (rest : List Bunch) :
    (b.chSeq = a.chSeq ∧ enqueueIncoming b (a :: rest) = none) ∨
    (b.chSeq < a.chSeq ∧ enqueueIncoming b (a :: rest) = some (b :: a :: rest)) ∨
    (a.chSeq < b.chSeq ∧ enqueueIncoming b (a :: rest) = (enqueueIncoming b rest).map (a :: ·)) := by
  rw [enqueueIncoming]
  rcases Int.lt_trichotomy b.chSeq a.chSeq with h | h | h
  · exact .inr (.inl ⟨h, by rw [if_neg (by simpa using Int.ne_of_lt h), if_pos h]⟩)
  · exact .inl ⟨h, by rw [if_pos (by simpa using h)]⟩
  · exact .inr (.inr ⟨h, by rw [if_neg (by simpa using (Int.ne_of_lt h).symm), if_neg (by omega)]⟩)

theorem enqueueIncoming_cons_some {b a : Bunch} {rest q' : List Bunch} (h : enqueueIncoming b (a :: rest) = some q') :
    (b.chSeq < a.chSeq ∧ q' = b :: a :: rest) ∨ (a.chSeq < b.chSeq ∧ ∃ r, enqueueIncoming b rest = some r ∧ q' = a :: r) := by
  rcases enqueueIncoming_cons b a rest with ⟨_, e⟩ | ⟨hlt, e⟩ | ⟨hgt, e⟩ <;> rw [e] at h
  · cases h
  · cases h; exact .inl ⟨hlt, rfl⟩
  · obtain ⟨r, hr, rfl⟩ := Option.map_eq_some_iff.mp h
    exact .inr ⟨hgt, r, hr, rfl⟩

theorem enqueue_mem (b : Bunch) : ∀ (q q' : List Bunch), enqueueIncoming b q = some q' → ∀ x, x ∈ q' ↔ (x = b ∨ x ∈ q) := by
  intro q
  induction q with
  | nil => intro q' h x; cases h; simp
  | cons a rest ih =>
    intro q' h x
    rcases enqueueIncoming_cons_some h with ⟨_, rfl⟩ | ⟨_, r, hr, rfl⟩
    · exact List.mem_cons
    · rw [List.mem_cons, ih r hr x, List.mem_cons, or_left_comm]

theorem enqueue_length (b : Bunch) : ∀ (q q' : List Bunch), enqueueIncoming b q = some q' → q'.length = q.length + 1 := by
  intro q
  induction q with
  | nil => intro q' h; cases h; rfl
  | cons a rest ih =>
    intro q' h
    rcases enqueueIncoming_cons_some h with ⟨_, rfl⟩ | ⟨_, r, hr, rfl⟩
    · rfl
    · rw [List.length_cons, ih r hr, List.length_cons]

/-! ### `ReceivedRawBunch` -/

/-- the three-way decision: a reliable bunch at or below the channel's counter is dropped … -/
theorem processBunch_old (c : Conn) (x : Channel) (b : Bunch) (hrel : b.bReliable = true) (h : b.chSeq ≤ x.inReliable) :
    c.processBunch x b = (c.emit (.free .node), false) := by
  unfold Conn.processBunch
  rw [hrel, decide_eq_true h]; rfl

/-- … the next one, and every unreliable bunch, goes to `ReceivedNextBunch` … -/
theorem processBunch_next (c : Conn) (x : Channel) (b : Bunch) (h : b.bReliable = true → b.chSeq = x.inReliable + 1) :
    c.processBunch x b = c.receivedNextBunch b := by
  unfold Conn.processBunch
  cases hr : b.bReliable with
  | false => rfl
  | true => rw [h hr, decide_eq_false (by omega : ¬ x.inReliable + 1 ≤ x.inReliable), bne_self_eq_false]; rfl

/-- … and a reliable bunch ahead of sequence is queued if there is room and it is not queued already -/
theorem processBunch_ahead (c : Conn) (x : Channel) (b : Bunch) (hrel : b.bReliable = true) (h : b.chSeq > x.inReliable + 1) :
    c.processBunch x b =
      if x.inRec.length + 1 ≥ reliableBuffer then (c.emit (.free .node), true) else
      match enqueueIncoming b x.inRec with
      | some q => (c.setChan b.chIndex { x with inRec := q }, false)
      | none => (c.emit (.free .node), false) := by
  unfold Conn.processBunch
  rw [hrel, decide_eq_false (by omega : ¬ b.chSeq ≤ x.inReliable), bne_iff_ne.mpr (by omega : b.chSeq ≠ x.inReliable + 1)]; rfl

theorem receivedNextBunch_single (c : Conn) (b : Bunch) (x : Channel) (hx : c.getChan b.chIndex = some x) (hnp : b.bPartial = false) :
    c.receivedNextBunch b =
      (((((c.setChan b.chIndex (if b.bReliable then { x with inReliable := b.chSeq } else x)).noteClose b).emit (.recv [b])).emit (.free .node)), false) := by
  unfold Conn.receivedNextBunch; rw [hx, hnp]; rfl

theorem dispatchAll_nil (c : Conn) (ch : Nat) (y : Channel) (h : c.getChan ch = some y) (hq : y.inRec = []) : c.dispatchAll ch = c := by
  unfold Conn.dispatchAll; rw [h]; dsimp only; rw [hq]; rfl

theorem receivedRawBunch_rest (c : Conn) (bits : Bits) : (c.receivedRawBunch bits).2.1 = (decodeBunch bits).rest := by
  unfold Conn.receivedRawBunch
  dsimp only
  cases decodeBunch bits with
  | fail rest => rfl
  | ok v rest =>
    dsimp only
    split
    · rfl
    · split <;> rfl

theorem receivedPacket_error (e : Env) (c : Conn) {bits : Bits} {r : Nat} (hd : decodePacketHeader bits = .error r) :
    c.receivedPacket e bits = (c.markClose r, false) := by
  unfold Conn.receivedPacket
  simp only [hd]

theorem receivedPacket_stale (e : Env) (c : Conn) {bits : Bits} {h : NotifHeader} {rest : Bits}
    (hd : decodePacketHeader bits = .ok (h, rest)) (hle : c.notify.deltaSeq h ≤ 0) :
    c.receivedPacket e bits = (c, rest.isEmpty) := by
  unfold Conn.receivedPacket
  simp only [hd, hle, if_true]

/-- `ReceivedPacket`, accepted header (`delta > 0`): counter advanced by `delta`, notification update, bunches, acknowledgement recorded -/
theorem receivedPacket_accept (e : Env) (c : Conn) {bits : Bits} {h : NotifHeader} {rest : Bits}
    (hd : decodePacketHeader bits = .ok (h, rest)) (hpos : c.notify.deltaSeq h > 0) :
    c.receivedPacket e bits =
      (let r := Conn.bunchLoop (rest.length + 1) (({ c with inPacketId := c.inPacketId + c.notify.deltaSeq h } : Conn).notifyUpdate e h) rest false
       ({ r.1 with notify := r.1.notify.ackSeq r.1.inPacketId (!r.2.2) }, r.2.1.isEmpty)) := by
  unfold Conn.receivedPacket
  have : ¬ (c.notify.deltaSeq h ≤ 0) := by omega
  simp only [hd, this, if_false]

theorem receivedPacket_cases (e : Env) (c : Conn) (bits : Bits) :
    (∃ r, decodePacketHeader bits = .error r ∧ c.receivedPacket e bits = (c.markClose r, false)) ∨
    (∃ h rest, decodePacketHeader bits = .ok (h, rest) ∧ c.notify.deltaSeq h ≤ 0 ∧ c.receivedPacket e bits = (c, rest.isEmpty)) ∨
    (∃ h rest, decodePacketHeader bits = .ok (h, rest) ∧ 0 < c.notify.deltaSeq h ∧ c.receivedPacket e bits =
      (let r := Conn.bunchLoop (rest.length + 1) (({ c with inPacketId := c.inPacketId + c.notify.deltaSeq h } : Conn).notifyUpdate e h) rest false
       ({ r.1 with notify := r.1.notify.ackSeq r.1.inPacketId (!r.2.2) }, r.2.1.isEmpty))) := by
  cases hd : decodePacketHeader bits with
  | error r => exact .inl ⟨r, rfl, receivedPacket_error e c hd⟩
  | ok p =>
    by_cases hle : c.notify.deltaSeq p.1 ≤ 0
    · exact .inr (.inl ⟨p.1, p.2, rfl, hle, receivedPacket_stale e c hd hle⟩)
    · exact .inr (.inr ⟨p.1, p.2, rfl, by omega, receivedPacket_accept e c hd (by omega)⟩)

theorem bunchLoop_succ (fuel : Nat) (c : Conn) (bits : Bits) (skip : Bool) (h : bits ≠ []) :
    Conn.bunchLoop (fuel + 1) c bits skip =
      Conn.bunchLoop fuel (c.receivedRawBunch bits).1 (c.receivedRawBunch bits).2.1 (skip || (c.receivedRawBunch bits).2.2) := by
  rw [Conn.bunchLoop, List.isEmpty_eq_false_iff.mpr h]
  rfl

/-- one turn of the `packet_notify_ack_seq` loop: the register moves on by one sequence number and records `b` for it -/
def Notify.push (n : Notify) (b : Bool) : Notify := { n with inAckSeq := seq_num_inc n.inAckSeq 1, hist := pushHist n.hist b }

theorem ackSeqLoop_succ (fuel : Nat) (n : Notify) (acked : Int) (isAck : Bool) :
    ackSeqLoop (fuel + 1) n acked isAck =
      if seq_num_greater_than acked n.inAckSeq
      then ackSeqLoop fuel (n.push (if seq_num_inc n.inAckSeq 1 == acked then isAck else false)) acked isAck else n := rfl

theorem ackSeqLoop_frame (fuel : Nat) : ∀ (n : Notify) (acked : Int) (isAck : Bool),
    ∃ a h, ackSeqLoop fuel n acked isAck = { n with inAckSeq := a, hist := h } ∧
      (0 ≤ n.inAckSeq ∧ n.inAckSeq < 16384 → 0 ≤ a ∧ a < 16384) ∧ (n.hist.length = histLen → h.length = histLen) := by
  induction fuel with
  | zero => intro n _ _; exact ⟨_, _, rfl, id, id⟩
  | succ fuel ih =>
    intro n acked isAck
    rw [ackSeqLoop_succ]
    by_cases hg : seq_num_greater_than acked n.inAckSeq = true
    · rw [if_pos hg]
      obtain ⟨a, h, heq, ha, hh⟩ := ih (n.push (if seq_num_inc n.inAckSeq 1 == acked then isAck else false)) acked isAck
      refine ⟨a, h, heq, fun _ => ha ?_, fun hl => hh ?_⟩
      · exact seq_num_inc_range _ _
      · show (pushHist n.hist _).length = histLen
        unfold pushHist; rw [List.length_take, List.length_cons, hl]
        exact Nat.min_eq_left (Nat.le_succ _)
    · rw [if_neg hg]
      exact ⟨_, _, rfl, id, id⟩

theorem ackSeq_frame (n : Notify) (p : Int) (isAck : Bool) :
    ∃ a h, n.ackSeq p isAck = { n with inAckSeq := a, hist := h } ∧
      (0 ≤ n.inAckSeq ∧ n.inAckSeq < 16384 → 0 ≤ a ∧ a < 16384) ∧ (n.hist.length = histLen → h.length = histLen) :=
  ackSeqLoop_frame 16384 n _ isAck

end Utcp
