import Utcp.Lemmas.Log
/-!
# The receive side of the channels: what leaves it alone, and what an invariant of it has to show

The receive side of a channel is `recvPart x = (InPartialBunch, InRec, InReliable)`.  The send path and the notification handler
leave it exactly as it is (`RSame`); `utcp_send_bunch` may in addition create a channel, with nothing queued and the initial
counter (`RQuiet`).  Neither logs a receive callback.

An invariant `I` of the receive side, with a predicate `P` on what is logged, is then settled by three facts (`RecvSide`): `I`
survives whatever is `RQuiet`, `P` holds of everything that is no callback, and every step of the receive path (`RStep`) keeps `I`
and logs only `P`.  `ReceivedPacket`, `utcp_send_flush` and `utcp_send_bunch` follow for all such invariants at once.
-/
namespace Utcp
open Gen

def recvPart (x : Channel) : List Bunch × List Bunch × Int := (x.inPartial, x.inRec, x.inReliable)

theorem isOut_not_recv (ev : Event) (h : isOut ev) : isRecv ev = false := by cases ev <;> simp_all [isOut, isRecv]
theorem isFreeNode_not_recv (ev : Event) (h : isFreeNode ev) : isRecv ev = false := by
  cases ev with
  | recv g => simp [isFreeNode] at h
  | _ => rfl
theorem isMem_not_recv (ev : Event) (h : isMem ev) : isRecv ev = false := by cases ev <;> first | rfl | cases h

abbrev NoRecv (ev : Event) : Prop := isRecv ev = false

structure RSame (c c' : Conn) : Prop where
  chan : ∀ ch, (c'.getChan ch).map recvPart = (c.getChan ch).map recvPart
  init : c'.initInReliable = c.initInReliable
  log : Adds NoRecv c c'

theorem RSame.refl (c : Conn) : RSame c c := ⟨fun _ => rfl, rfl, Adds.refl _ _⟩
theorem RSame.trans {a b c : Conn} (h1 : RSame a b) (h2 : RSame b c) : RSame a c :=
  ⟨fun ch => (h2.chan ch).trans (h1.chan ch), h2.init.trans h1.init, h1.log.trans h2.log⟩

theorem RSame.of_chans {c c' : Conn} (hc : c'.chans = c.chans) (hl : c'.log = c.log) (hi : c'.initInReliable = c.initInReliable := by rfl) : RSame c c' :=
  ⟨fun ch => by rw [getChan_of_chans hc], hi, Adds.of_log_eq hl⟩

theorem emit_rsame (c : Conn) (ev : Event) (hev : isRecv ev = false) : RSame c (c.emit ev) :=
  ⟨fun _ => rfl, rfl, Adds.emit c ev hev⟩

theorem setChan_rsame (c : Conn) (ch : Nat) (x x' : Channel) (h : c.getChan ch = some x) (hp : recvPart x' = recvPart x) : RSame c (c.setChan ch x') := by
  refine ⟨?_, rfl, Adds.of_log_eq rfl⟩
  intro ch'
  by_cases he : ch' = ch
  · subst he; rw [getChan_setChan_self, h]; simp [hp]
  · rw [getChan_setChan_other he]

theorem markClose_rsame (c : Conn) (r : Nat) : RSame c (c.markClose r) := by
  obtain ⟨_, _, h⟩ := markClose_eq c r; rw [h]; exact RSame.of_chans rfl rfl

theorem markClosed_recvPart (x : Channel) (r : Nat) : recvPart (x.markClosed r) = recvPart x := by
  unfold Channel.markClosed; split <;> rfl

theorem freeNodes_rsame (c : Conn) (k : Nat) : RSame c (c.freeNodes k) := by
  rw [freeNodes_eq]
  exact ⟨fun _ => rfl, rfl, _, rfl, fun ev h => by rw [List.eq_of_mem_replicate h]; rfl⟩

theorem rsame_cclosed : CClosed RSame :=
  ⟨RSame.refl, RSame.trans, markClose_rsame, fun c ch x r hx => setChan_rsame c ch x _ hx (markClosed_recvPart x r), fun _ => RSame.of_chans rfl rfl⟩

theorem noteClose_rsame (c : Conn) (b : Bunch) : RSame c (c.noteClose b) := rsame_cclosed.noteClose c b
theorem foldl_noteClose_rsame (g : List Bunch) (c : Conn) : RSame c (g.foldl Conn.noteClose c) := rsame_cclosed.foldl_noteClose g c

/-- handing a group to the application: the channel is still there afterwards, with the receive side it had, and its fragment list is emptied -/
theorem delivered_eq (c : Conn) (ch : Nat) (x : Channel) (hx : c.getChan ch = some x) (g : List Bunch) :
    ∃ y, (((g.foldl Conn.noteClose c).emit (.recv g)).freeNodes g.length).getChan ch = some y ∧ recvPart y = recvPart x ∧
      c.delivered ch g = (((g.foldl Conn.noteClose c).emit (.recv g)).freeNodes g.length).setChan ch { y with inPartial := [] } := by
  have hp := (foldl_noteClose_rsame g c).chan ch
  rw [hx] at hp
  have hg : (((g.foldl Conn.noteClose c).emit (.recv g)).freeNodes g.length).getChan ch = (g.foldl Conn.noteClose c).getChan ch := by
    rw [freeNodes_getChan]; rfl
  cases hy : (g.foldl Conn.noteClose c).getChan ch with
  | none => rw [hy] at hp; cases hp
  | some y =>
    rw [hy] at hp
    refine ⟨y, hg.trans hy, Option.some.inj hp, ?_⟩
    unfold Conn.delivered
    dsimp only
    rw [hg, hy]

theorem rsame_sclosed (e : Env) : SClosed e RSame where
  refl := RSame.refl
  trans := RSame.trans
  startPacket _ := RSame.of_chans rfl rfl
  flushNow c _ := ⟨fun _ => rfl, rfl, [_], rfl, by intro ev h; simp at h; subst h; rfl⟩
  append _ _ := RSame.of_chans rfl rfl
  setOut c ch x _ hx := setChan_rsame c ch x _ hx rfl

theorem rsame_nclosed (e : Env) : NClosed e RSame :=
  (rsame_sclosed e).toNClosed (fun c => emit_rsame c _ rfl) (fun _ => RSame.of_chans rfl rfl) (fun _ => RSame.of_chans rfl rfl)
    (fun c _ _ => emit_rsame c _ rfl) (fun _ _ _ _ _ => RSame.of_chans rfl rfl)

theorem notifyUpdate_rsame (e : Env) (c : Conn) (h : NotifHeader) : RSame c (c.notifyUpdate e h) := (rsame_nclosed e).notifyUpdate c h

structure RQuiet (c c' : Conn) : Prop where
  /-- a channel of `c'` has the receive side it had in `c`, or is new, empty and at the initial counter -/
  chan : ∀ ch x', c'.getChan ch = some x' →
    (c.getChan ch).map recvPart = some (recvPart x') ∨ (c.getChan ch = none ∧ recvPart x' = ([], [], c.initInReliable))
  keep : ∀ ch, c'.getChan ch = none → c.getChan ch = none
  init : c'.initInReliable = c.initInReliable
  log : Adds NoRecv c c'

theorem RQuiet.of_rsame {c c' : Conn} (h : RSame c c') : RQuiet c c' := by
  refine ⟨?_, ?_, h.init, h.log⟩
  · intro ch x' hx'; left; have := h.chan ch; rw [hx'] at this; exact this.symm
  · intro ch hn; have := h.chan ch; rw [hn] at this; simpa using this.symm

theorem RQuiet.refl (c : Conn) : RQuiet c c := .of_rsame (.refl c)

theorem RQuiet.trans {a b c : Conn} (h1 : RQuiet a b) (h2 : RQuiet b c) : RQuiet a c := by
  refine ⟨?_, fun ch hn => h1.keep ch (h2.keep ch hn), h2.init.trans h1.init, h1.log.trans h2.log⟩
  intro ch x hx
  rcases h2.chan ch x hx with h | ⟨hn, hp⟩
  · cases hb : b.getChan ch with
    | none => rw [hb] at h; cases h
    | some xb =>
      rw [hb] at h
      rw [← Option.some.inj h]
      exact h1.chan ch xb hb
  · exact .inr ⟨h1.keep ch hn, by rw [hp, h1.init]⟩

theorem createChan_rquiet (c : Conn) (ch : Nat) (hn : c.getChan ch = none) : RQuiet c (c.createChan ch) := by
  obtain ⟨evs, cap, hev, heq⟩ := createChan_eq c ch
  rw [heq]
  refine ⟨?_, ?_, rfl, evs, rfl, fun ev h => by rcases hev ev h with rfl | rfl | rfl <;> rfl⟩
  · intro ch' x' hx'
    by_cases he : ch' = ch
    · subst he; rw [getChan_setChan_self] at hx'; cases hx'; exact Or.inr ⟨hn, rfl⟩
    · rw [getChan_setChan_other he] at hx'; left
      show (c.getChan ch').map recvPart = _; rw [show c.getChan ch' = some x' from hx']; rfl
  · intro ch' hn'
    by_cases he : ch' = ch
    · subst he; rw [getChan_setChan_self] at hn'; cases hn'
    · rwa [getChan_setChan_other he] at hn'

def ChanInv (J : Nat → Channel → Prop) (c : Conn) : Prop := ∀ ch x, c.getChan ch = some x → J ch x

theorem ChanInv.of_chans {J : Nat → Channel → Prop} {c c' : Conn} (h : ChanInv J c) (hc : c'.chans = c.chans) : ChanInv J c' :=
  fun ch x hx => h ch x (by rw [← getChan_of_chans hc]; exact hx)

theorem ChanInv.setChan {J : Nat → Channel → Prop} {c : Conn} (h : ChanInv J c) (ch : Nat) (x : Channel) (hx : J ch x) : ChanInv J (c.setChan ch x) := by
  intro ch' x' hx'
  by_cases he : ch' = ch
  · subst he; rw [getChan_setChan_self] at hx'; cases hx'; exact hx
  · rw [getChan_setChan_other he] at hx'; exact h ch' x' hx'

/-- a property that reads the receive side of a channel only, and holds of a fresh one, survives whatever is `RQuiet` -/
theorem ChanInv.of_rquiet {J : Nat → Channel → Prop} {c c' : Conn} (h : ChanInv J c) (hs : RQuiet c c')
    (hJ : ∀ ch x x', x'.inPartial = x.inPartial → x'.inRec = x.inRec → x'.inReliable = x.inReliable → J ch x → J ch x')
    (hnew : ∀ ch x', x'.inPartial = [] → x'.inRec = [] → x'.inReliable = c.initInReliable → J ch x') : ChanInv J c' := by
  intro ch x' hx'
  rcases hs.chan ch x' hx' with hc | ⟨_, hp⟩
  · cases hx : c.getChan ch with
    | none => rw [hx] at hc; cases hc
    | some x =>
      rw [hx] at hc
      have hp := Option.some.inj hc
      exact hJ ch x x' (congrArg (·.1) hp).symm (congrArg (·.2.1) hp).symm (congrArg (·.2.2) hp).symm (h ch x hx)
  · exact hnew ch x' (congrArg (·.1) hp) (congrArg (·.2.1) hp) (congrArg (·.2.2) hp)

theorem sendBunch_rquiet (e : Env) (c : Conn) (b : Bunch) : RQuiet c (c.sendBunch e b).1 :=
  sendBunch_closed
    ((rsame_sclosed e).toBClosed.mono RQuiet.refl RQuiet.trans RQuiet.of_rsame)
    ⟨RQuiet.refl, RQuiet.trans, fun c r => .of_rsame (markClose_rsame c r), fun c ch x r h => .of_rsame (rsame_cclosed.markClosed c ch x r h),
      fun c => .of_rsame (rsame_cclosed.owe c)⟩
    createChan_rquiet (fun c ch x _ hx => .of_rsame (setChan_rsame c ch x _ hx rfl))
    (fun c ch x n hx => .of_rsame ((rsame_sclosed e).record (fun c => emit_rsame c _ rfl) c ch x n hx)) c b

/-- what a step logs: allocator events, except that `single` hands over its bunch and `deliver` the group it found complete -/
theorem RStep.adds {B : Bunch → Prop} {P : Event → Prop} {δ : Int} {a b : Conn} (s : RStep B δ a b) (hP : ∀ ev, isMem ev → P ev)
    (hsingle : ∀ {c0 : Conn} {δ' : Int} (x : Channel) (bn : Bunch), Taken B bn δ' a c0 → c0.getChan bn.chIndex = some x → bn.bPartial = false → P (.recv [bn]))
    (hdeliver : ∀ (ch : Nat) (x : Channel) (last : Bunch), a.getChan ch = some x → x.inPartial.getLast? = some last → last.bPartialFinal = true →
      x.inPartial.length ≤ maxGroup → P (.recv x.inPartial)) : Adds P a b := by
  have fr : ∀ (c : Conn) k, Adds P c (c.freeNodes k) := freeNodes_adds (hP _ trivial)
  have tk : ∀ {bn δ' c0}, Taken B bn δ' a c0 → Adds P a c0 := by
    intro bn δ' c0 ht
    cases ht with
    | wire => exact Adds.refl _ _
    | queue => exact setChan_adds P _ _ _
  cases s with
  | alloc => exact Adds.emit _ _ (hP _ trivial)
  | drop => exact Adds.emit _ _ (hP _ trivial)
  | fail => exact markClose_adds _ _ _
  | create => exact createChan_adds hP _ _
  | enqueue => exact setChan_adds P _ _ _
  | single x bn ht hx hp =>
    exact ((((tk ht).trans (setChan_adds P _ bn.chIndex (x.took bn))).trans ((adds_cclosed P).noteClose _ _)).emit_trans _ (hsingle x bn ht hx hp)).emit_trans
      (.free .node) (hP _ trivial)
  | start _ _ ht => exact ((tk ht).trans (fr _ _)).trans (setChan_adds P _ _ _)
  | append _ _ _ ht => exact (tk ht).trans (setChan_adds P _ _ _)
  | refuse _ _ ht => exact ((tk ht).trans (setChan_adds P _ _ _)).emit_trans _ (hP _ trivial)
  | discard _ _ ht => exact (((tk ht).trans (fr _ _)).trans (setChan_adds P _ _ _)).emit_trans _ (hP _ trivial)
  | stray _ ht => exact (tk ht).emit_trans _ (hP _ trivial)
  | deliver ch x last hx hl hf _ hlen =>
    obtain ⟨y, _, _, heq⟩ := delivered_eq a ch x hx x.inPartial
    rw [heq]
    exact ((((adds_cclosed P).foldl_noteClose x.inPartial a).emit_trans _ (hdeliver ch x last hx hl hf hlen)).trans (fr _ x.inPartial.length)).trans (setChan_adds P _ _ _)
  | overflow ch x =>
    exact ((fr a _).trans (setChan_adds P _ ch { x with inPartial := [] })).trans (markClose_adds _ _ _)

/-- the bunch loop on the body of the datagram `bits` is a sequence of steps whose bunches from the wire satisfy `B` -/
def LoopOK (B : Bunch → Prop) (bits : Bits) : Prop :=
  ∀ hd rest, decodePacketHeader bits = .ok (hd, rest) → ∀ c, RSteps B 0 c (Conn.bunchLoop (rest.length + 1) c rest false).1

theorem loopOK_any (bits : Bits) : LoopOK (fun _ => True) bits := fun _ rest _ c => bunchLoop_steps _ c rest false

/-- what an invariant `I` of the receive side, with `P` for what is logged, has to show; `B` is what it needs to know of a bunch
that comes from the wire -/
structure RecvSide (B : Bunch → Prop) (I : Conn → Prop) (P : Event → Prop) : Prop where
  quiet : ∀ {c c'}, I c → RQuiet c c' → I c'
  noRecv : ∀ ev, isRecv ev = false → P ev
  step : ∀ {δ a b}, RStep B δ a b → Pres I P a b

section
variable {B : Bunch → Prop} {I : Conn → Prop} {P : Event → Prop} (hI : RecvSide B I P)
include hI

theorem RecvSide.of_quiet {c c' : Conn} (h : RQuiet c c') : Pres I P c c' := fun hi => ⟨hI.quiet hi h, h.log.mono hI.noRecv⟩

theorem RecvSide.of_rsame {c c' : Conn} (h : RSame c c') : Pres I P c c' := hI.of_quiet (.of_rsame h)

theorem RecvSide.steps {δ : Int} {a b : Conn} (h : RSteps B δ a b) : Pres I P a b := h.rel Pres.refl Pres.trans hI.step

theorem RecvSide.receivedPacket (e : Env) (c : Conn) (bits : Bits) (hloop : LoopOK B bits) : Pres I P c (c.receivedPacket e bits).1 := by
  rcases receivedPacket_cases e c bits with ⟨r, _, h⟩ | ⟨_, _, _, _, h⟩ | ⟨hd, rest, hdec, _, h⟩ <;> rw [h]
  · exact hI.of_rsame (markClose_rsame _ _)
  · exact Pres.refl c
  · exact ((hI.of_rsame ((RSame.of_chans rfl rfl : RSame c { c with inPacketId := c.inPacketId + c.notify.deltaSeq hd }).trans (notifyUpdate_rsame e _ hd))).trans
      (hI.steps (hloop hd rest hdec _))).trans (hI.of_rsame (RSame.of_chans rfl rfl))

theorem RecvSide.flush (e : Env) (c : Conn) : Pres I P c (c.flush e) := hI.of_rsame ((rsame_sclosed e).flush c)

theorem RecvSide.sendBunch (e : Env) (c : Conn) (b : Bunch) : Pres I P c (c.sendBunch e b).1 := hI.of_quiet (sendBunch_rquiet e c b)

end

end Utcp
