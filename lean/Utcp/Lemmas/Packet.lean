import Utcp.Handshake
import Utcp.Lemmas.Conn
/-! `Endpoint.incoming` as equations. On a data datagram: up to the call of `ReceivedPacket`; the equations of `ReceivedPacket` itself are in
`Lemmas/Conn.lean`, and only its accept branch as one walk and the notification update inside it are here. On a handshake datagram: up to
`handshake_incoming`, and what that does for a client whose handshake is pending. -/
namespace Utcp
open Gen

theorem ackSeq_keeps (n : Notify) (acked : Int) (isAck : Bool) :
    (n.ackSeq acked isAck).inSeq = n.inSeq ∧ (n.ackSeq acked isAck).outSeq = n.outSeq ∧ (n.ackSeq acked isAck).outAckSeq = n.outAckSeq := by
  obtain ⟨i, h, heq, _⟩ := ackSeq_frame n acked isAck
  rw [heq]
  exact ⟨rfl, rfl, rfl⟩

/-! `packet_notify_update` as equations: the receive sequence becomes the header's; when the header acknowledges nothing new that is all;
otherwise the newly covered packets get their verdicts first and the acknowledged sequence is recorded -/

theorem notifyUpdate_inSeq (e : Env) (c : Conn) (h : NotifHeader) : (c.notifyUpdate e h).notify.inSeq = h.seq := rfl

theorem notifyUpdate_nothing_acked (e : Env) (c : Conn) (h : NotifHeader) (hn : seq_num_greater_than h.ackedSeq c.notify.outAckSeq = false) :
    c.notifyUpdate e h = { c with notify := { c.notify with inSeq := h.seq } } := by
  unfold Conn.notifyUpdate
  simp only [hn, Bool.false_eq_true, if_false]

theorem notifyUpdate_acked (e : Env) (c : Conn) (h : NotifHeader) (hgt : seq_num_greater_than h.ackedSeq c.notify.outAckSeq = true) :
    c.notifyUpdate e h =
      let c' := (verdicts c.notify.outAckSeq h (seq_num_diff h.ackedSeq c.notify.outAckSeq).toNat).foldl (Conn.handleNotification e)
        { c with notify := c.notify.updateInAckSeqAck (seq_num_diff h.ackedSeq c.notify.outAckSeq).toNat h.ackedSeq }
      { c' with notify := { c'.notify with outAckSeq := h.ackedSeq, inSeq := h.seq } } := by
  unfold Conn.notifyUpdate
  simp only [hgt, if_true]

/-- **the accept branch of `ReceivedPacket`, walked once**: the counter advances, the notification update runs, the bunch loop leads to some
`c3` related to that state by whatever the loop keeps (`R`), and one `packet_notify_ack_seq` records whether a bunch was refused -/
theorem receivedPacket_accept_loop {R : Conn → Conn → Prop} (hloop : ∀ fuel c bits skip, R c (Conn.bunchLoop fuel c bits skip).1)
    (e : Env) (c : Conn) (bits : Bits) (h : NotifHeader) (rest : Bits)
    (hd : decodePacketHeader bits = .ok (h, rest)) (hpos : c.notify.deltaSeq h > 0) :
    ∃ c3 skip, R (({ c with inPacketId := c.inPacketId + c.notify.deltaSeq h } : Conn).notifyUpdate e h) c3 ∧
      (c.receivedPacket e bits).1 = { c3 with notify := c3.notify.ackSeq c3.inPacketId (!skip) } := by
  rw [receivedPacket_accept e c hd hpos]
  exact ⟨_, _, hloop _ _ _ _, rfl⟩

/-- the connection as `incoming` hands it to `ReceivedPacket`: session id, client id and receive clock recorded, nothing else touched -/
def heard (e : Env) (c : Conn) (s cl : Nat) : Conn := { c with lastSessionId := s, lastClientId := cl, lastRecvMs := e.nowMs }

theorem heard_again (e : Env) (c : Conn) (s cl : Nat) (h1 : c.lastSessionId = s) (h2 : c.lastClientId = cl) (h3 : c.lastRecvMs = e.nowMs) :
    heard e c s cl = c := by
  unfold heard
  cases c
  simp only at h1 h2 h3
  subst h1; subst h2; subst h3; rfl

/-- `incoming` on a non-empty data datagram: session id, client id and receive clock are recorded, then `ReceivedPacket` runs on the payload
(without its stop bit); nothing else of the endpoint and nothing of the generator changes -/
theorem incoming_data {T} (tm : TimeOps T) (e : Env) (ep : Endpoint) (rng : Rng) (bytes : List UInt8) (bits rest : Bits) (s c : Nat)
    (hb : readInit bytes = some bits) (hh : readOutgoingHeader e bits = .ok (s, c, false) rest) (hne : rest.isEmpty = false) :
    ep.incoming tm e rng bytes =
      ({ ep with c := ((heard e ep.c s c).receivedPacket e rest.dropLast).1 }, rng, ((heard e ep.c s c).receivedPacket e rest.dropLast).2) := by
  unfold Endpoint.incoming heard
  simp only [hb, hh, Bool.false_eq_true, if_false, hne]

/-- `incoming` on a datagram that frames and parses as handshake data `hs` is `handshake_incoming` on exactly that data, when that returns 0 -/
theorem incoming_of_wire {T} (tm : TimeOps T) (e : Env) (rng : Rng) (ep : Endpoint) (d : List UInt8)
    (bits rest : Bits) (s c : Nat) (hs : HsData) {ep' : Endpoint} {rng' : Rng}
    (h1 : readInit d = some bits) (h2 : readOutgoingHeader e bits = .ok (s, c, true) rest) (h3 : parseHandshake rest = some hs)
    (h4 : ep.handshakeIncoming tm e rng hs c = (ep', rng', 0)) :
    ep.incoming tm e rng d = (ep', rng', true) := by
  unfold Endpoint.incoming
  simp only [h1, h2, h3, h4, if_true]
  rfl

/-- `handshake_incoming` for a client whose handshake is pending, on a packet that is not a restart request: a challenge with a positive
timestamp is answered, an ack with a negative one completes the handshake, anything else is ignored -/
theorem handshakeIncoming_pending {T} (tm : TimeOps T) (e : Env) (rng : Rng) (ep : Endpoint) (ch : Challenge) (hs : HsData) (cid : Nat)
    (hch : ep.chal = some ch) (hst : ch.state = stUnInit ∨ ch.state = stLocal) (hrs : hs.restart = false) :
    ep.handshakeIncoming tm e rng hs cid =
      if hs.ptype == ptChallenge && tm.gt0 (tm.ofBits hs.ts) then
        let r := ({ ep with chal := some { ch with lastChallengeMs := e.nowMs } } : Endpoint).sendResponse e rng hs.secretId hs.ts hs.cookie
        ({ r.1 with chal := r.1.chal.map fun ch => { ch with state := stLocal } }, r.2, 0)
      else if hs.ptype == ptAck && tm.lt0 (tm.ofBits hs.ts) then (ep.onAck e ch hs, rng, 0)
      else (ep, rng, 0) := by
  unfold Endpoint.handshakeIncoming
  have h1 : (ch.state == stUnInit || ch.state == stLocal) = true := by
    rcases hst with h | h <;> rw [h] <;> decide
  simp only [hch, h1, if_true, hrs, Bool.false_eq_true, if_false]

end Utcp
