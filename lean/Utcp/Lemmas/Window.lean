import Utcp.Lemmas.Origin
/-!
# Where the receive counters can be (receiver side)

For one channel `ch` and bounds `lo ≤ hi`: `WInv Q ch lo hi c` says that every channel's `InReliable` is at least `lo` (the initial
value), that channel `ch`'s is at most `hi`, that the reliable fragments being assembled were numbered above `lo`, and that every
queued bunch sits in its own channel's queue and satisfies `Q`.  `Q` is any stable predicate (`QStable`) whose reliable members on
channel `ch` *fit*: taken as the successor of a counter in `[lo, hi]` they do not leave `[lo, hi]` (`Fits`).  Then `ReceivedPacket`
on a body of encodings of bunches satisfying `Q` keeps the invariant, and every reliable bunch delivered was numbered above `lo`
(`WP`).
-/
namespace Utcp
open Gen Partial

def Fits (ch : Nat) (lo hi : Int) (b : Bunch) : Prop :=
  b.bReliable = true → b.chIndex = ch → ∀ r, lo ≤ r → r ≤ hi → b.chSeq = r + 1 → b.chSeq ≤ hi

structure WC (Q : Bunch → Prop) (ch : Nat) (lo hi : Int) (ch' : Nat) (x : Channel) : Prop where
  low : lo ≤ x.inReliable
  part : ∀ f ∈ x.inPartial, f.bReliable = true → lo < f.chSeq
  high : ch' = ch → x.inReliable ≤ hi
  queue : ∀ q ∈ x.inRec, q.chIndex = ch' ∧ Q q

structure WInv (Q : Bunch → Prop) (ch : Nat) (lo hi : Int) (c : Conn) : Prop where
  init : c.initInReliable = lo
  le : lo ≤ hi
  chans : ∀ ch' x, c.getChan ch' = some x → WC Q ch lo hi ch' x

def WP (lo : Int) (ev : Event) : Prop := ∀ g, ev = .recv g → ∀ q ∈ g, q.bReliable = true → lo < q.chSeq

variable {Q : Bunch → Prop} {ch : Nat} {lo hi : Int}

theorem WInv.of_chans {c c' : Conn} (h : WInv Q ch lo hi c) (hc : c'.chans = c.chans) (hi' : c'.initInReliable = c.initInReliable := by rfl) :
    WInv Q ch lo hi c' :=
  ⟨hi'.trans h.init, h.le, ChanInv.of_chans (J := WC Q ch lo hi) h.chans hc⟩

theorem WInv.setChan {c : Conn} (h : WInv Q ch lo hi c) (ch' : Nat) (x : Channel) (hx : WC Q ch lo hi ch' x) : WInv Q ch lo hi (c.setChan ch' x) :=
  ⟨h.init, h.le, ChanInv.setChan (J := WC Q ch lo hi) h.chans ch' x hx⟩

theorem WInv.of_rquiet {c c' : Conn} (h : WInv Q ch lo hi c) (hs : RQuiet c c') : WInv Q ch lo hi c' := by
  refine ⟨hs.init.trans h.init, h.le, ChanInv.of_rquiet (J := WC Q ch lo hi) h.chans hs ?_ ?_⟩
  · intro _ x x' h1 h2 h3 hw
    exact ⟨h3 ▸ hw.low, h1 ▸ hw.part, h3 ▸ hw.high, h2 ▸ hw.queue⟩
  · intro _ x' h1 h2 h3
    exact ⟨by rw [h3, h.init]; exact Int.le_refl _, h1 ▸ fun _ hf => (by cases hf), fun _ => by rw [h3, h.init]; exact h.le, h2 ▸ fun _ hq => (by cases hq)⟩

theorem RStep.winv (hQF : ∀ b, Q b → Fits ch lo hi b) {δ : Int} {a b : Conn} (s : RStep Q δ a b) (h : WInv Q ch lo hi a) :
    WInv Q ch lo hi b ∧ Adds (WP lo) a b := by
  -- the bunch taken satisfies `Q` and is the next one of the channel it names; moving the counter to it keeps the channel in the window
  have tk : ∀ {bn δ c0}, Taken Q bn δ a c0 → WInv Q ch lo hi c0 ∧ ∀ x, c0.getChan bn.chIndex = some x →
      (bn.bReliable = true → lo < bn.chSeq) ∧ WC Q ch lo hi bn.chIndex (x.took bn) := by
    intro bn δ c0 ht
    have key : ∀ {c0 : Conn}, WInv Q ch lo hi c0 → Q bn → ∀ x, c0.getChan bn.chIndex = some x → (bn.bReliable = true → bn.chSeq = x.inReliable + 1) →
        (bn.bReliable = true → lo < bn.chSeq) ∧ WC Q ch lo hi bn.chIndex (x.took bn) := by
      intro c0 h0 hb x hx hn
      have hw := h0.chans _ x hx
      have hbl : bn.bReliable = true → lo < bn.chSeq := fun hr => by have := hn hr; have := hw.low; omega
      refine ⟨hbl, ?_⟩
      unfold Channel.took
      split
      · rename_i hr
        exact ⟨by have := hbl hr; show lo ≤ bn.chSeq; omega, hw.part, fun hch => hQF bn hb hr hch x.inReliable hw.low (hw.high hch) (hn hr), hw.queue⟩
      · exact hw
    cases ht with
    | wire x hb hx hn => exact ⟨h, fun x' hx' => by rw [hx] at hx'; cases hx'; exact key h hb x hx hn⟩
    | queue ch' x rest hx hq hseq =>
      have hw := h.chans ch' x hx
      have hb := hw.queue bn (by rw [hq]; exact List.mem_cons_self)
      have g1 : WInv Q ch lo hi (a.setChan ch' { x with inRec := rest }) :=
        h.setChan ch' _ ⟨hw.low, hw.part, hw.high, fun q hq' => hw.queue q (by rw [hq]; exact List.mem_cons_of_mem _ hq')⟩
      refine ⟨g1, fun x' hx' => key g1 hb.2 x' hx' ?_⟩
      intro _
      rw [hb.1, getChan_setChan_self] at hx'
      cases hx'
      exact hseq
  refine ⟨?_, s.adds (fun ev h => of_not_recv ev (isMem_not_recv ev h))
    (fun x bn ht hx _ g hg => by cases hg; intro q hq hr; simp at hq; subst hq; exact ((tk ht).2 x hx).1 hr)
    (fun ch' x _ hx _ _ _ g hg => by cases hg; exact (h.chans ch' x hx).part)⟩
  cases s with
  | alloc => exact h.of_chans rfl
  | drop => exact h.of_chans rfl
  | fail => exact h.of_rquiet (.of_rsame (markClose_rsame _ _))
  | create _ hn => exact h.of_rquiet (createChan_rquiet _ _ hn)
  | enqueue x bn q hb hx _ _ _ hq =>
    have hw := h.chans _ x hx
    refine h.setChan _ _ ⟨hw.low, hw.part, hw.high, ?_⟩
    intro y hy
    rcases (enqueue_mem bn x.inRec q hq y).mp hy with rfl | hy
    · exact ⟨rfl, hb⟩
    · exact hw.queue y hy
  | single x bn ht hx =>
    exact ((((tk ht).1.setChan _ _ ((tk ht).2 x hx).2).of_rquiet (.of_rsame (noteClose_rsame _ _))).of_chans rfl).of_chans rfl
  | start x bn ht hx =>
    obtain ⟨hbl, hw⟩ := (tk ht).2 x hx
    exact ((tk ht).1.of_rquiet (.of_rsame (freeNodes_rsame _ _))).setChan _ { x.took bn with inPartial := [bn] }
      ⟨hw.low, (by intro f hf; simp at hf; subst hf; exact hbl), hw.high, hw.queue⟩
  | append x bn _ ht hx =>
    obtain ⟨hbl, hw⟩ := (tk ht).2 x hx
    refine (tk ht).1.setChan _ { x.took bn with inPartial := x.inPartial ++ [bn] } ⟨hw.low, ?_, hw.high, hw.queue⟩
    intro f hf
    simp only [List.mem_append, List.mem_singleton] at hf
    rcases hf with hf | rfl
    · exact hw.part f (by simpa using hf)
    · exact hbl
  | refuse x bn ht hx => exact ((tk ht).1.setChan _ _ ((tk ht).2 x hx).2).of_chans rfl
  | discard x bn ht hx =>
    obtain ⟨_, hw⟩ := (tk ht).2 x hx
    exact (((tk ht).1.of_rquiet (.of_rsame (freeNodes_rsame _ _))).setChan _ { x.took bn with inPartial := [] }
      ⟨hw.low, (by intro f hf; cases hf), hw.high, hw.queue⟩).of_chans rfl
  | stray _ ht => exact (tk ht).1.of_chans rfl
  | deliver ch' x last hx =>
    obtain ⟨y, hy, _, heq⟩ := delivered_eq a ch' x hx x.inPartial
    rw [heq]
    have g : WInv Q ch lo hi (((x.inPartial.foldl Conn.noteClose a).emit (.recv x.inPartial)).freeNodes x.inPartial.length) :=
      ((h.of_rquiet (.of_rsame (foldl_noteClose_rsame _ _))).of_chans rfl : WInv Q ch lo hi ((x.inPartial.foldl Conn.noteClose a).emit (.recv x.inPartial))).of_rquiet (.of_rsame (freeNodes_rsame _ _))
    have hw := g.chans _ y hy
    exact g.setChan _ { y with inPartial := [] } ⟨hw.low, (by intro f hf; cases hf), hw.high, hw.queue⟩
  | overflow ch' x hx =>
    have hw := h.chans _ x hx
    exact ((h.of_rquiet (.of_rsame (freeNodes_rsame _ _))).setChan _ { x with inPartial := [] } ⟨hw.low, (by intro f hf; cases hf), hw.high, hw.queue⟩).of_rquiet (.of_rsame (markClose_rsame _ _))

theorem winv_side (hQF : ∀ b, Q b → Fits ch lo hi b) : RecvSide Q (WInv Q ch lo hi) (WP lo) := ⟨WInv.of_rquiet, of_not_recv, RStep.winv hQF⟩

end Utcp
