import Utcp.Lemmas.ByteCopy
/-! The main path of the bit-run copier, whole: lead-in, byte loop, lead-out. -/
namespace Utcp.BB

theorem shl255_ne (e : Nat) : (255 <<< e ≠ 255) ↔ e ≠ 0 := by
  constructor
  · intro h he; subst he; simp at h
  · intro he h
    rw [Nat.shiftLeft_eq] at h
    have : 255 * 2 ^ 1 ≤ 255 * 2 ^ e := Nat.mul_le_mul_left _ (Nat.pow_le_pow_right (by decide) (Nat.pos_of_ne_zero he))
    rw [h] at this
    exact absurd this (by decide)

/-- the two alignments of the lead-in leave the same situation behind: `off` extra source bytes consumed, a shift `sh`, `s + sh = d + 8 * off`.
`X1`, `X2` stand for the loop counts the C code computes, which `leadIn_layout` shows to be `L`: they are variables here (as is the test `c` in
`leadOut_acc`), so that the `/` and `max` of the C expressions are dealt with once, in the two layout lemmas, and stay out of the goals of `cpyMain_core` -/
theorem leadIn_spec (src : Mem) (hs : BytesOK src) (S0 s d L X1 X2 : Nat) (hs8 : s < 8) (hd8 : d < 8)
    (h0 : S0 < src.length) (h1 : s ≤ d → X1 = L) (h2 : ¬ s ≤ d → X2 = L ∧ S0 + 1 < src.length) :
    ∃ off sh acc0, sh < 8 ∧ s + sh = d + 8 * off ∧ AccOK src S0 sh off acc0 ∧
      (if s ≤ d then
        (rd src S0).bind fun a => some (X1, a <<< (d - s), S0, d - s + 8)
       else
        (rd src S0).bind fun a => (rd src (S0 + 1)).bind fun b =>
          some (X2, ((b <<< (d + 8 - s + 8)) + (a <<< (d + 8 - s))) >>> 8, S0 + 1, d + 8 - s + 8))
      = some (L, acc0, S0 + off, sh + 8) := by
  by_cases h : s ≤ d
  · refine ⟨0, d - s, src.getD S0 0 <<< (d - s), by omega, by omega,
      accOK_init src hs S0 (d - s), ?_⟩
    rw [if_pos h, rd_of_lt _ _ h0, h1 h]
    rfl
  · refine ⟨1, d + 8 - s, _, by omega, by omega,
      accOK_step src hs S0 (d + 8 - s) 0 _ (accOK_init src hs S0 (d + 8 - s)), ?_⟩
    rw [if_neg h, rd_of_lt _ _ h0, rd_of_lt _ _ (h2 h).2, (h2 h).1]
    rfl

/-- the arithmetic of the lead-in: the loop count the C code takes as a maximum is the number of whole destination bytes, and the second source
byte exists when it is read -/
theorem leadIn_layout (S0 s d n N e sl : Nat) (hs8 : s < 8) (hd8 : d < 8) (he8 : e < 8) (hn : 9 ≤ n) (hde : d + n = 8 * (N + 1) + e)
    (hsl : 8 * S0 + s + n ≤ 8 * sl) :
    S0 < sl ∧ (s ≤ d → max (N + 1) ((8 * S0 + s + n) / 8 - S0) = N + 1) ∧
      (¬ s ≤ d → max (N + 1) ((8 * S0 + s + n) / 8 - S0 - 1) = N + 1 ∧ S0 + 1 < sl) := by
  obtain ⟨h1, h2⟩ := (div8_eq_iff (8 * S0 + s + n) _).1 rfl
  generalize (8 * S0 + s + n) / 8 = q at h1 h2
  -- `Nat.sub_le_of_le_add` first: `omega` is slower on truncated subtraction
  exact ⟨by omega, fun h => Nat.max_eq_left (Nat.sub_le_of_le_add (by omega)),
    fun h => ⟨Nat.max_eq_left (Nat.sub_le_of_le_add (Nat.sub_le_of_le_add (by omega))), by omega⟩⟩

/-- the arithmetic of the byte loop and the lead-out: the loop's `N` source bytes exist, and the lead-out reads one more exactly when the accumulator
does not already hold the `e` bits it needs -/
theorem leadOut_layout (S0 s d n N e off sh sl : Nat) (hsh : sh < 8) (he8 : e < 8) (hde : d + n = 8 * (N + 1) + e) (hrel : s + sh = d + 8 * off)
    (hsl : 8 * S0 + s + n ≤ 8 * sl) :
    S0 + off + N < sl ∧
    ((8 * S0 + s + n - 1) / 8 = S0 + off + 1 + N → S0 + (off + N) + 1 < sl) ∧ (¬ (8 * S0 + s + n - 1) / 8 = S0 + off + 1 + N → e ≤ sh) := by
  rw [div8_eq_iff]
  exact ⟨by omega, fun h => by omega, fun h => by omega⟩

/-- the run to be copied, seen from destination byte `D0` on, is the stream from position `8 * off` on (`s + sh = d + 8 * off` is what the lead-in arranges) -/
theorem srcAt_shifted (src : Mem) (S0 s D0 d sh off x : Nat) (hrel : s + sh = d + 8 * off) (hx : d ≤ x) :
    srcAt src (8 * S0 + s) (8 * D0 + d) (8 * D0 + x) = shifted src S0 sh (8 * off + x) := by
  obtain ⟨i, rfl⟩ := Nat.exists_eq_add_of_le hx
  rw [← Nat.add_assoc, srcAt_add, show 8 * off + (d + i) = sh + (s + i) by omega, shifted_add, Nat.add_assoc]

/-- the accumulator of the lead-out, with or without its extra source read (`c`: the C code's test for it, see `leadOut_layout`): its low `e` bits
continue the stream (it holds all eight after the read, only the `sh` that were still waiting without it) -/
theorem leadOut_acc (src : Mem) (hs : BytesOK src) (S0 sh M acc e : Nat) (he8 : e < 8) (h : AccOK src S0 sh M acc) (c : Prop) [Decidable c]
    (hc : (c → S0 + M + 1 < src.length) ∧ (¬ c → e ≤ sh)) :
    ∃ acc2, (if c then (rd src (S0 + M + 1)).bind fun b => some (((b <<< (sh + 8)) + acc) >>> 8) else some (acc >>> 8)) = some acc2 ∧
      ∀ j, j < e → acc2.testBit j = shifted src S0 sh (8 * (M + 1) + j) := by
  by_cases h' : c
  · refine ⟨_, by rw [if_pos h', rd_of_lt _ _ (hc.1 h')]; rfl, fun j hj => ?_⟩
    exact (accOK_step src hs S0 sh M acc h).at j (Nat.lt_of_lt_of_le (Nat.lt_trans hj he8) (Nat.le_add_left 8 sh))
  · refine ⟨_, by rw [if_neg h'], fun j hj => ?_⟩
    have hj8 : 8 + j < sh + 8 := by have := hc.2 h'; omega
    rw [Nat.testBit_shiftRight, h.at (8 + j) hj8, shifted_succ]

theorem cpyMain_core (dest src : Mem) (hdk : BytesOK dest) (hsk : BytesOK src) (D0 d S0 s n L e : Nat)
    (hd8 : d < 8) (hs8 : s < 8) (he8 : e < 8) (hn : 9 ≤ n) (hde : d + n = 8 * L + e)
    (hdl : 8 * D0 + d + n ≤ 8 * dest.length) (hsl : 8 * S0 + s + n ≤ 8 * src.length) :
    ∃ dest', cpyMain dest (8 * D0 + d) src (8 * S0 + s) n = some dest' ∧
      Upd dest dest' (8 * D0 + d) (8 * D0 + d + n) (srcAt src (8 * S0 + s) (8 * D0 + d)) := by
  obtain ⟨N, rfl⟩ : ∃ N, L = N + 1 := Nat.exists_eq_succ_of_ne_zero (by rintro rfl; omega)
  have e0 : 8 * D0 + d + n = 8 * (D0 + (N + 1)) + e := by rw [Nat.add_assoc, hde, ← Nat.add_assoc, ← Nat.mul_add]
  have e1 : D0 + 1 + N = D0 + (N + 1) := by rw [Nat.add_assoc, Nat.add_comm 1 N]
  -- the destination: bytes `D0 .. D0 + N` exist, and so does byte `D0 + N + 1` when the run reaches into it
  have hend : 8 * (D0 + 1 + N) + e ≤ 8 * dest.length := by omega
  have hDN : D0 + 1 + N ≤ dest.length := bytes_le_of_bits_le hend
  have hD : D0 < dest.length := Nat.lt_of_lt_of_le (Nat.lt_succ_self D0) (Nat.le_trans (Nat.le_add_right (D0 + 1) N) hDN)
  -- the three stores are adjacent: `8 * D0 + d ≤ 8 * (D0 + 1) ≤ 8 * (D0 + 1 + N)`
  have hlo : 8 * D0 + d ≤ 8 * (D0 + 1) := by omega
  have hmid : 8 * (D0 + 1) ≤ 8 * (D0 + 1 + N) := Nat.mul_le_mul_left 8 (Nat.le_add_right (D0 + 1) N)
  obtain ⟨hS, hX1, hX2⟩ := leadIn_layout S0 s d n N e src.length hs8 hd8 he8 hn hde hsl
  obtain ⟨off, sh, acc0, hsh, hrel, hacc0, hlead⟩ := leadIn_spec src hsk S0 s d (N + 1) _ _ hs8 hd8 hS hX1 hX2
  obtain ⟨hSN, hout⟩ := leadOut_layout S0 s d n N e off sh src.length hsh he8 hde hrel hsl
  have hf : ∀ D x, srcAt src (8 * S0 + s) (8 * D0 + d) (8 * (D0 + (1 + D)) + x) = shifted src S0 sh (8 * (off + (1 + D)) + x) := fun D x => by
    -- a later byte starts at bit 8 or beyond, and `d < 8`
    have hd : d ≤ 8 * (1 + D) + x := by omega
    rw [Nat.mul_add 8 D0, Nat.mul_add 8 off, Nat.add_assoc, Nat.add_assoc]
    exact srcAt_shifted src S0 s D0 d sh off _ hrel hd
  unfold cpyMain
  simp only [e0, div8 _ _ hd8, mod8 _ _ hd8, div8 _ _ hs8, mod8 _ _ hs8, div8 _ _ he8, mod8 _ _ he8, Nat.add_sub_cancel_left]
  rw [hlead]
  simp only [Option.bind_some, rd_of_lt dest D0 hD]
  -- lead-in: the bits of byte `D0` from the cursor up
  obtain ⟨m1, hw1, hu1⟩ := wr_masked dest hdk D0 acc0 _ d 8 _ (srcAt src (8 * S0 + s) (8 * D0 + d)) hD (Nat.le_refl 8) rfl
    (mask255 d) (fun j h1 h2 => by
      rw [hacc0.at j (Nat.lt_of_lt_of_le h2 (Nat.le_add_left 8 sh)), srcAt_shifted src S0 s D0 d sh off j hrel h1]) rfl (Nat.mul_succ 8 D0)
  rw [hw1]
  -- the whole bytes `D0 + 1 .. D0 + N`
  obtain ⟨m2, acc1, hloop, hacc1, hu2⟩ := cpyLoop_spec src hsk S0 sh (srcAt src (8 * S0 + s) (8 * D0 + d)) N m1 off (D0 + 1) acc0
    hacc0 hu1.2.1 hSN (hu1.1 ▸ hDN) (hf 0)
  have hu12 := hu1.trans hu2 hlo hmid
  simp only [Option.bind_some, hloop]
  by_cases he : e = 0
  · rw [if_neg (by rw [shl255_ne]; exact fun h => h he)]
    exact ⟨m2, rfl, hu12.cast rfl (by rw [e1, he]; rfl)⟩
  · rw [if_pos ((shl255_ne e).mpr he)]
    -- lead-out: the `e` low bits of byte `D0 + N + 1`
    obtain ⟨acc2, hacc2, hbits2⟩ := leadOut_acc src hsk S0 sh (off + N) acc1 e he8 hacc1 ((8 * S0 + s + n - 1) / 8 = S0 + off + 1 + N) hout
    rw [show S0 + (off + N) + 1 = S0 + off + 1 + N by rw [← Nat.add_assoc, Nat.add_right_comm]] at hacc2
    have hD2 : D0 + 1 + N < m2.length := by rw [hu2.1, hu1.1]; exact byte_lt_of_bits_le (Nat.pos_of_ne_zero he) hend
    rw [hacc2]
    simp only [Option.bind_some, rd_of_lt m2 _ hD2]
    obtain ⟨m3, hw3, hu3⟩ := wr_masked_compl m2 hu2.2.1 (D0 + 1 + N) acc2 _ 0 e _ (srcAt src (8 * S0 + s) (8 * D0 + d)) hD2 (Nat.le_of_lt he8) rfl
      (mask255_compl e) (fun j _ h2 => by
        rw [hbits2 j h2, Nat.add_assoc D0 1 N, hf N j, Nat.add_comm 1 N, Nat.add_assoc off N 1]) rfl rfl
    exact ⟨m3, hw3, e1 ▸ hu12.trans hu3 (Nat.le_trans hlo hmid) (Nat.le_add_right _ e)⟩

end Utcp.BB
