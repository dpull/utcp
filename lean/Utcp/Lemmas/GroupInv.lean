import Utcp.Lemmas.Partial
import Utcp.Lemmas.RecvAdds
/-!
# Every receive callback, in every history, carries a single non-partial bunch or one complete, well-shaped group

`GInv c`: the reassembly list of every open channel has the shape of a group under construction (`Partial.Shape`).
`GroupP ev`: if `ev` is a receive callback, its argument is a single non-partial bunch or a complete group (shape, final last
fragment, at most 256 fragments).  `GInv` is an invariant of the receive side that logs only events satisfying `GroupP` (`ginv_side`).
-/
namespace Utcp
open Gen Partial

def GroupOK (g : List Bunch) : Prop :=
  (∃ b, g = [b] ∧ b.bPartial = false) ∨
  (Shape g ∧ g ≠ [] ∧ g.getLast?.map (·.bPartialFinal) = some true ∧ g.length ≤ 256)

def GroupP (ev : Event) : Prop := ∀ g, ev = .recv g → GroupOK g

def GInv (c : Conn) : Prop := ∀ ch x, c.getChan ch = some x → Shape x.inPartial

theorem GInv.of_chans {c c' : Conn} (h : GInv c) (hc : c'.chans = c.chans) : GInv c' := ChanInv.of_chans (J := fun _ x => Shape x.inPartial) h hc

theorem GInv.setChan {c : Conn} (h : GInv c) (ch : Nat) (x : Channel) (hx : Shape x.inPartial) : GInv (c.setChan ch x) :=
  ChanInv.setChan (J := fun _ x => Shape x.inPartial) h ch x hx

theorem GInv.of_rquiet {c c' : Conn} (h : GInv c) (hs : RQuiet c c') : GInv c' :=
  ChanInv.of_rquiet (J := fun _ x => Shape x.inPartial) h hs (fun _ _ _ h1 _ _ hx => h1 ▸ hx) (fun _ _ h1 _ _ => h1 ▸ trivial)

theorem RStep.ginv {B : Bunch → Prop} {δ : Int} {a b : Conn} (s : RStep B δ a b) (h : GInv a) : GInv b ∧ Adds GroupP a b := by
  refine ⟨?_, s.adds (fun ev h => of_not_recv ev (isMem_not_recv ev h)) (fun _ bn _ _ hp _ hg => by cases hg; exact Or.inl ⟨bn, rfl, hp⟩) ?_⟩
  · have tk : ∀ {b δ c0}, Taken B b δ a c0 → GInv c0 := by
      intro b δ c0 ht
      cases ht with
      | wire => exact h
      | queue _ x _ hx => exact h.setChan _ _ (h _ x hx)
    cases s with
    | alloc => exact h.of_chans rfl
    | drop => exact h.of_chans rfl
    | fail => exact h.of_chans (markClose_chans _ _)
    | create _ hn => exact h.of_rquiet (createChan_rquiet _ _ hn)
    | enqueue x _ _ _ hx => exact h.setChan _ _ (h _ x hx)
    | single x _ ht hx =>
      exact ((((tk ht).setChan _ _ (by rw [took_inPartial]; exact tk ht _ x hx)).of_rquiet (.of_rsame (noteClose_rsame _ _))).of_chans rfl).of_chans rfl
    | start _ _ ht hx hp hi => exact ((tk ht).of_chans (freeNodes_chans _ _)).setChan _ _ (by simp [Shape, Shape.Tail, hp, hi])
    | append x _ _ ht hx hp hi hl hm => exact (tk ht).setChan _ _ (shape_append _ _ _ (tk ht _ x hx) hl hm hp hi)
    | refuse x _ ht hx => exact ((tk ht).setChan _ _ (by rw [took_inPartial]; exact tk ht _ x hx)).of_chans rfl
    | discard _ _ ht hx => exact (((tk ht).of_chans (freeNodes_chans _ _)).setChan _ _ (by simp [Shape])).of_chans rfl
    | stray _ ht => exact (tk ht).of_chans rfl
    | deliver ch x last hx =>
      obtain ⟨y, _, _, heq⟩ := delivered_eq a ch x hx x.inPartial
      rw [heq]
      exact (((h.of_rquiet (.of_rsame (foldl_noteClose_rsame _ _))).of_chans rfl :
        GInv ((x.inPartial.foldl Conn.noteClose a).emit (.recv x.inPartial))).of_chans (freeNodes_chans _ _)).setChan _ _ (by simp [Shape])
    | overflow _ _ hx => exact ((h.of_chans (freeNodes_chans _ _)).setChan _ _ (by simp [Shape])).of_chans (markClose_chans _ _)
  · intro ch x last hx hl hf hlen g hg
    cases hg
    refine Or.inr ⟨h ch x hx, by intro he; simp [he] at hl, by rw [hl]; simp [hf], ?_⟩
    have : maxGroup = 256 := by decide
    omega

theorem ginv_side : RecvSide (fun _ => True) GInv GroupP := ⟨GInv.of_rquiet, of_not_recv, RStep.ginv⟩

end Utcp
