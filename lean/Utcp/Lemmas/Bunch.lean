import Utcp.Bunch
import Utcp.Lemmas.BitIO
/-! round-trip lemmas for the bunch codec -/
namespace Utcp

theorem maxChSequence_eq : maxChSequence = 2 ^ 10 := by decide
theorem maxPacketBits_eq : maxPacketBits = 2 ^ 13 := by decide
theorem closeReasonMax_eq : closeReasonMax = 15 := by decide

/-- the header bits `encodeBunchHeader` produces when it does not refuse -/
def hdrBits (b : Bunch) : Bits :=
  writeCtl b.bOpen b.bClose b.closeReason ++ [b.bPaused, b.bReliable] ++ writeIntPacked b.chIndex
    ++ [b.bExports, b.bGuids, b.bPartial] ++ writeSeq b.bReliable b.chSeq
    ++ writePartialFlags b.bPartial b.bPartialInitial b.bPartialFinal
    ++ writeName (b.bReliable || b.bOpen) b.nameIndex ++ writeIntWrapped b.data.length maxPacketBits

/-- the header starts with the control bit `writeCtl` writes first -/
theorem hdrBits_ne_nil (b : Bunch) : hdrBits b ≠ [] := List.cons_ne_nil (b.bOpen || b.bClose) _

theorem encodeBunchHeader_eq (b : Bunch) :
    encodeBunchHeader b = if b.bClose = true ∧ 15 ≤ b.closeReason then none else some (hdrBits b) := by
  rw [encodeBunchHeader, closeReasonMax_eq, ← hdrBits]
  exact ite_congr (by simp [Nat.not_lt]) (fun _ => rfl) fun _ => rfl

theorem encodeBunch_eq (b : Bunch) :
    encodeBunch b = if b.bClose = true ∧ 15 ≤ b.closeReason then none else some (hdrBits b ++ b.data) := by
  rw [encodeBunch, encodeBunchHeader_eq]
  by_cases hc : b.bClose = true ∧ 15 ≤ b.closeReason
  · rw [if_pos hc, if_pos hc]
  · rw [if_neg hc, if_neg hc]

theorem encodeBunchHeader_eq_some_iff (b : Bunch) (h : Bits) :
    encodeBunchHeader b = some h ↔ (b.bClose = true → b.closeReason < 15) ∧ h = hdrBits b := by
  rw [encodeBunchHeader_eq]
  split
  · rename_i hc; exact ⟨nofun, fun h => absurd (h.1 hc.1) (Nat.not_lt.2 hc.2)⟩
  · rename_i hc
    rw [Option.some.injEq]
    exact ⟨fun h => ⟨fun h1 => Nat.lt_of_not_le fun h2 => hc ⟨h1, h2⟩, h.symm⟩, fun h => h.2.symm⟩

/-! each stage ignores the fields its flag switches off -/

theorem writeCtl_reason (o c : Bool) (r : Nat) : writeCtl o c (if c then r else 0) = writeCtl o c r := by
  cases c <;> simp only [writeCtl, if_true, Bool.false_eq_true, if_false]

theorem writeSeq_off (rel : Bool) (s : Int) : writeSeq rel (if rel then s else 0) = writeSeq rel s := by
  cases rel <;> simp only [writeSeq, if_true, Bool.false_eq_true, if_false]

theorem writePartialFlags_off (p a b : Bool) : writePartialFlags p (p && a) (p && b) = writePartialFlags p a b := by
  cases p <;> simp only [writePartialFlags, Bool.true_and, Bool.false_eq_true, if_false]

theorem writeName_off (has : Bool) (n : Nat) : writeName has (if has then n % 2 ^ 32 else 0) = writeName has n := by
  cases has <;> simp only [writeName, writeIntPacked, if_true, Nat.mod_mod, Bool.false_eq_true, if_false]

theorem writeCtl_length_le (o c : Bool) (r : Nat) : (writeCtl o c r).length ≤ 7 := by
  have := writeInt_length_le r closeReasonMax 4 (by decide)
  unfold writeCtl; simp only []
  split <;> (try split) <;> simp only [List.length_append, List.length_cons, List.length_nil] <;> omega

theorem writeIntPacked_length_le (v : Nat) : (writeIntPacked v).length ≤ 40 := (wPacked_length 5 _).1

theorem writeSeq_length_le (rel : Bool) (s : Int) : (writeSeq rel s).length ≤ 10 := by
  unfold writeSeq; split
  · rw [writeIntWrapped_eq]; exact writeInt_length_le _ _ 10 (by decide)
  · exact Nat.zero_le _

theorem writePartialFlags_length_le (p a b : Bool) : (writePartialFlags p a b).length ≤ 2 := by
  cases p <;> simp [writePartialFlags]

theorem writeName_length_le (has : Bool) (n : Nat) : (writeName has n).length ≤ 41 := by
  have := writeIntPacked_length_le n
  cases has <;> simp [writeName]; omega

theorem hdrBits_length_le (b : Bunch) : (hdrBits b).length ≤ 118 := by
  have h1 := writeCtl_length_le b.bOpen b.bClose b.closeReason
  have h2 := writeIntPacked_length_le b.chIndex
  have h3 := writeSeq_length_le b.bReliable b.chSeq
  have h4 := writePartialFlags_length_le b.bPartial b.bPartialInitial b.bPartialFinal
  have h5 := writeName_length_le (b.bReliable || b.bOpen) b.nameIndex
  have h6 : (writeIntWrapped b.data.length maxPacketBits).length ≤ 13 := by rw [writeIntWrapped_eq]; exact writeInt_length_le _ _ 13 (by decide)
  simp only [hdrBits, List.length_append, List.length_cons, List.length_nil]
  omega

/-- in-range fields: exactly what the serializer can represent -/
structure WFBunch (b : Bunch) : Prop where
  reason : if b.bClose then b.closeReason < 15 else b.closeReason = 0
  ch : b.chIndex < 65536
  pinit : b.bPartial = false → b.bPartialInitial = false
  pfinal : b.bPartial = false → b.bPartialFinal = false
  nameLt : b.nameIndex < 2 ^ 32
  name0 : b.bReliable = false → b.bOpen = false → b.nameIndex = 0
  len : b.data.length < 8192
  seq0 : b.bReliable = false → b.chSeq = 0

/-- what the receiver sees of a bunch: the channel sequence modulo 1024, no packet id yet -/
def wireView (b : Bunch) : Bunch := { b with chSeq := b.chSeq % 1024, packetId := 0 }

theorem chseq_cast (x : Int) : (((x % 4294967296).toNat % 1024 : Nat) : Int) = x % 1024 := by
  rw [Int.natCast_emod, Int.toNat_of_nonneg (Int.emod_nonneg _ (by decide))]
  exact Int.emod_emod_of_dvd x (by decide)

theorem readCtl_write (o c : Bool) (r : Nat) (hr : if c then r < 15 else r = 0) (rest : Bits) :
    readCtl (writeCtl o c r ++ rest) = .ok (o, c, r) rest := by
  cases c
  · rw [if_neg Bool.false_ne_true] at hr; subst hr; cases o <;> rfl
  · rw [if_pos rfl] at hr
    -- three literal bits, then the reason
    have e : writeCtl o true r ++ rest = true :: o :: true :: (writeInt r closeReasonMax ++ rest) := by cases o <;> rfl
    have rd : ∀ bs, readCtl (true :: o :: true :: bs) = (readInt closeReasonMax >>= fun r => (pure (o, true, r) : Rd _)) bs := fun _ => rfl
    rw [e, rd, Rd.bind_apply, closeReasonMax_eq, readInt_writeInt r 15 rest hr (by decide)]; rfl

theorem readSeq_write (rel : Bool) (chSeq : Int) (h0 : rel = false → chSeq = 0) (rest : Bits) :
    readSeq rel (writeSeq rel chSeq ++ rest) = .ok (chSeq % 1024).toNat rest := by
  cases rel
  · rw [h0 rfl]; rfl
  · rw [readSeq, writeSeq, if_pos rfl, if_pos rfl, maxChSequence_eq, readInt_wrapped_pow2 10 _ _ (by decide)]
    congr 1
    apply Int.ofNat_inj.1
    rw [Int.toNat_of_nonneg (Int.emod_nonneg _ (by decide))]
    exact chseq_cast chSeq

theorem readPartialFlags_write (p a b : Bool) (ha : p = false → a = false) (hb : p = false → b = false) (rest : Bits) :
    readPartialFlags p (writePartialFlags p a b ++ rest) = .ok (a, b) rest := by
  cases p
  · rw [ha rfl, hb rfl]; rfl
  · rfl

theorem readName_write (has : Bool) (name : Nat) (hlt : name < 2 ^ 32) (h0 : has = false → name = 0) (rest : Bits) :
    readName has (writeName has name ++ rest) = .ok name rest := by
  cases has
  · rw [h0 rfl]; rfl
  · simp [readName, writeName, Rd.bind_apply, readIntPacked_write, Nat.mod_eq_of_lt hlt]

end Utcp
