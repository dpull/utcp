import Utcp.Lemmas.Emission
/-!
# What is kept for retransmission (sender side): only reliable bunches

`AllOKP (BitsN G) c`: the bits of every retransmission record of `c` satisfy `G`.  For predicates on the bits alone the acknowledgement
path keeps it (a NAK re-tags a record, it does not change its bits); with `G` = "is the encoding of a well-formed *reliable* bunch" a send
establishes it.  So an unreliable bunch is written to exactly one packet and never again.
-/
namespace Utcp
open Gen

theorem bitsN_side (e : Env) (G : Bits → Prop) : SendSide e (fun _ => True) G (AllOKP (BitsN G)) (fun _ => True) where
  flush c h := ⟨h.of_chans (flush_chans e c), (flush_adds e c).mono (fun _ _ => trivial)⟩
  writeBits c bits _ h := ⟨h.of_chans (writeBits_chans e c bits), ((isOut_sclosed e).writeBits c bits).mono (fun _ _ => trivial)⟩
  recs _ h := h
  resend _ _ := trivial
  frame _ _ _ _ _ _ _ _ h := h
  notify _ _ h _ _ _ _ := h.of_chans rfl
  noOut _ _ := trivial

def RelEnc (bits : Bits) : Prop := ∃ b, WFBunch b ∧ b.bReliable = true ∧ bits = encB b

theorem sendBunch_relenc (e : Env) (c : Conn) (b : Bunch) (h : AllOKP (BitsN RelEnc) c) : AllOKP (BitsN RelEnc) (c.sendBunch e b).1 := by
  refine ((bitsN_side e RelEnc).sendBunch c b ?_ h).1
  intro h0 x hchk _
  obtain ⟨hchi, _, henc, hfit⟩ := sendCheck_cases hchk
  refine ⟨fun hr => ?_, fun _ => trivial⟩
  obtain ⟨⟨hh, hhe⟩, hcr⟩ := header_some_of_zero b (x.outReliable + 1) h0 henc
  rw [hhe, Option.getD_some]
  refine ⟨nrm { b with chSeq := x.outReliable + 1 }, wf_nrm _ hcr (by show b.chIndex < 65536; omega) (by show b.data.length < 8192; omega), hr, ?_⟩
  exact (encB_nrm_of_header hhe).symm

end Utcp
