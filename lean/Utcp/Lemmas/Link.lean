import Utcp.Props.C04
import Utcp.Lemmas.Window
/-!
# Helper definitions and lemmas for `Props/C01_Link.lean` (the two ends of a link, with sequence numbers)
-/
namespace Utcp.Props.C01Link
open Utcp Utcp.Gen Utcp.Props

/-! ## histories without teardown are histories -/

def lift : C01.Op → C18.Op
  | .send b => .send b
  | .flush => .flush
  | .recv bits => .recv bits

def liftOps (ops : List (Env × C01.Op)) : List (Env × C18.Op) := ops.map (fun p => (p.1, lift p.2))

theorem run_lift (ops : List (Env × C01.Op)) : ∀ c : Conn, C18.run c (liftOps ops) = C01.run c ops := by
  induction ops with
  | nil => intro c; rfl
  | cons p rest ih =>
    intro c
    obtain ⟨e, op⟩ := p
    cases op <;> exact ih _

/-- the bunches accepted in a history, newest first, numbered as the sender numbered them -/
def sentOf : Conn → List (Env × C01.Op) → List Bunch → List Bunch
  | _, [], sent => sent
  | c, (e, .send b) :: rest, sent => sentOf (C01.apply e c (.send b)) rest (c.sentAfter b sent)
  | c, (e, op) :: rest, sent => sentOf (C01.apply e c op) rest sent

theorem sentOf_lift (ops : List (Env × C01.Op)) : ∀ (c : Conn) (sent : List Bunch), C04.sentOf c (liftOps ops) sent = sentOf c ops sent := by
  induction ops with
  | nil => intro c sent; rfl
  | cons p rest ih =>
    intro c sent
    obtain ⟨e, op⟩ := p
    cases op <;> exact ih _ _

/-- `C04.link_offered` for a sender's history without teardown -/
theorem link_offered (mb mg : Nat) (hfit : mg < 2 ^ mb) (opsS : List (Env × C01.Op)) (hS : ∀ p ∈ opsS, p.1.magicBits = mb ∧ p.1.magic = mg) (iS oS : Int)
    (opsR : List (Env × C01.Op)) (hR : ∀ p ∈ opsR, p.1.magicBits = mb ∧ p.1.magic = mg)
    (hlink : C04.FromLink (C01.run (({} : Conn).seqInit iS oS) opsS) opsR) : C04.Offered (sentOf (({} : Conn).seqInit iS oS) opsS []) opsR := by
  rw [← run_lift] at hlink
  rw [← sentOf_lift]
  refine C04.link_offered mb mg hfit (liftOps opsS) (fun p hp => ?_) iS oS opsR hR hlink
  obtain ⟨q, hq, rfl⟩ := List.mem_map.mp hp
  exact hS q hq

/-! ## the sender numbers consecutively -/

def onCh (ch : Nat) (b : Bunch) : Bool := b.bReliable && b.chIndex == ch

/-- sequence numbers of the reliable bunches of channel `ch` in `sent`, newest first like `sent`; definitionally `relOf ch sent`
(`Lemmas/RecvOrder.lean`) -/
def relTags (ch : Nat) (sent : List Bunch) : List Int := (sent.filter (onCh ch)).map (·.chSeq)

/-- the reliable bunches the sender accepted on channel `ch`, in sending order, numbered -/
def accepted (ch : Nat) (sent : List Bunch) : List Bunch := (sent.filter (onCh ch)).reverse

theorem onCh_iff (ch : Nat) (b : Bunch) : onCh ch b = true ↔ b.bReliable = true ∧ b.chIndex = ch := by
  unfold onCh; rw [Bool.and_eq_true, beq_iff_eq]

theorem relTags_cons (ch : Nat) (t : Bunch) (s : List Bunch) :
    relTags ch (t :: s) = if onCh ch t then t.chSeq :: relTags ch s else relTags ch s := by
  unfold relTags; rw [List.filter_cons]; split <;> rfl

/-- `hi, hi-1, …, lo+1` -/
def Desc (lo : Int) : Int → List Int → Prop
  | hi, [] => hi = lo
  | hi, t :: rest => t = hi ∧ Desc lo (hi - 1) rest

theorem desc_facts (lo : Int) : ∀ (l : List Int) (hi : Int), Desc lo hi l →
    (∀ t ∈ l, lo < t ∧ t ≤ hi) ∧ l.Pairwise (· > ·) ∧ hi - lo = l.length := by
  intro l
  induction l with
  | nil => intro hi h; simp only [Desc] at h; subst h; exact ⟨List.forall_mem_nil _, List.Pairwise.nil, Int.sub_self hi⟩
  | cons t rest ih =>
    intro hi h
    simp only [Desc] at h
    obtain ⟨rfl, hr⟩ := h
    obtain ⟨i1, i2, i3⟩ := ih _ hr
    have hlo : lo < t := by omega
    have hlt : ∀ x ∈ rest, x < t := fun x hx => Int.lt_of_le_sub_one (i1 x hx).2
    refine ⟨?_, ?_, ?_⟩
    · intro x hx
      rcases List.mem_cons.mp hx with rfl | hx
      · exact ⟨hlo, Int.le_refl _⟩
      · exact ⟨(i1 x hx).1, Int.le_of_lt (hlt x hx)⟩
    · rw [List.pairwise_cons]
      exact ⟨hlt, i2⟩
    · rw [List.length_cons, Int.natCast_succ, ← i3]; omega

structure SeqInv (ch : Nat) (lo : Int) (c : Conn) (sent : List Bunch) : Prop where
  init : c.initOutReliable = lo
  desc : Desc lo (c.outRelOf ch) (relTags ch sent)

theorem step_seq (ch : Nat) (lo : Int) (e : Env) (c : Conn) (op : C01.Op) (sent : List Bunch) (h : SeqInv ch lo c sent) :
    SeqInv ch lo (C01.apply e c op) (match op with | .send b => c.sentAfter b sent | _ => sent) := by
  cases op with
  | flush =>
    have hs := (osame_sclosed e).flush c
    exact ⟨hs.init.trans h.init, by show Desc lo ((c.flush e).outRelOf ch) _; rw [hs.out ch]; exact h.desc⟩
  | recv bits =>
    have hs := receivedPacket_osame e c bits
    exact ⟨hs.init.trans h.init, by show Desc lo ((c.receivedPacket e bits).1.outRelOf ch) _; rw [hs.out ch]; exact h.desc⟩
  | send b =>
    show SeqInv ch lo (c.sendBunch e b).1 (c.sentAfter b sent)
    cases hchk : c.sendCheck b with
    | inl err => rw [sentAfter_refused hchk, sendBunch_refused e hchk]; exact h
    | inr h0 =>
      rw [sentAfter_accepted hchk, sendBunch_accepted e hchk]
      obtain ⟨o1, o2, o3⟩ := sendCommit_out e c b h0 hchk
      refine ⟨o1.trans h.init, ?_⟩
      rw [relTags_cons, show onCh ch (c.tagged b) = onCh ch b from rfl]
      by_cases hon : onCh ch b = true
      · -- a reliable bunch of `ch`: the counter moves to the number the bunch was given
        obtain ⟨hr, rfl⟩ := (onCh_iff _ b).1 hon
        rw [if_pos hon, o3, if_pos hr]
        refine ⟨rfl, ?_⟩
        have hn : c.nextSeq b - 1 = c.outRelOf b.chIndex := by unfold Conn.nextSeq; rw [if_pos hr]; exact Int.add_sub_cancel _ 1
        rw [hn]; exact h.desc
      · -- any other bunch: neither the list nor the counter of `ch` changes
        rw [if_neg hon]
        by_cases hc : ch = b.chIndex
        · subst hc
          have hr : ¬ b.bReliable = true := fun hr => hon ((onCh_iff _ b).2 ⟨hr, rfl⟩)
          rw [o3, if_neg hr]; exact h.desc
        · rw [o2 ch hc]; exact h.desc

theorem run_seq (ch : Nat) (lo : Int) (ops : List (Env × C01.Op)) : ∀ (c : Conn) (sent : List Bunch), SeqInv ch lo c sent →
    SeqInv ch lo (C01.run c ops) (sentOf c ops sent) := by
  induction ops with
  | nil => intro c sent h; exact h
  | cons p rest ih =>
    intro c sent h
    obtain ⟨e, op⟩ := p
    have hs := step_seq ch lo e c op sent h
    cases op <;> exact ih _ _ hs

/-! ## the receiver stays inside the sender's numbers -/

theorem mem_relTags_of_seen (ch : Nat) (sent : List Bunch) (q b : Bunch) (hb : b ∈ sent) (hseen : seen q = seen b)
    (hr : q.bReliable = true) (hc : q.chIndex = ch) : b.chSeq ∈ relTags ch sent ∧ b ∈ accepted ch sent := by
  obtain ⟨f1, f2⟩ := C04.seen_fields q b hseen
  have hon : b ∈ sent.filter (onCh ch) := List.mem_filter.mpr ⟨hb, (onCh_iff ch b).2 ⟨f2 ▸ hr, f1 ▸ hc⟩⟩
  exact ⟨List.mem_map_of_mem hon, List.mem_reverse.mpr hon⟩

/-- two numbers that agree modulo 1024, one inside a window `(lo, hi]` of fewer than 1024 numbers and the other at most one above it,
are equal -/
theorem eq_of_window {a t lo hi : Int} (hm : a % 1024 = t % 1024) (hw : hi - lo < 1024) (ht : lo < t ∧ t ≤ hi) (hlo : lo < a)
    (hhi : a ≤ hi + 1) : a = t := by
  omega

/-- a reliable bunch on `ch` that looks like one the sender numbered, taken as the successor of a counter inside the sender's range, is
still inside it — because the channel has carried fewer than 1024 numbers -/
theorem sentQ_fits (ch : Nat) (lo hi : Int) (sent : List Bunch) (htags : ∀ t ∈ relTags ch sent, lo < t ∧ t ≤ hi) (hsmall : hi - lo < 1024) :
    ∀ b, SentQ sent b → Fits ch lo hi b := by
  intro b ⟨tb, htb, hseen, hres⟩ hr hc r hlo hhi hnext
  have ht := htags _ (mem_relTags_of_seen ch sent b tb htb hseen hr hc).1
  rw [eq_of_window (hres hr) hsmall ht (by omega) (by omega)]
  exact ht.2

theorem fresh_winv (Q : Bunch → Prop) (ch : Nat) (lo hi : Int) (i o : Int) (hlo : lo = i % 1024) (hle : lo ≤ hi) :
    WInv Q ch lo hi (({} : Conn).seqInit i o) :=
  ⟨hlo.symm, hle, fun ch' x hx => (no_chan_of_chans_nil rfl ch' x hx).elim⟩

theorem receiver_run_w (sent : List Bunch) (ch : Nat) (lo hi : Int) (hQF : ∀ b, SentQ sent b → Fits ch lo hi b)
    (ops : List (Env × C01.Op)) : ∀ c : Conn, WInv (SentQ sent) ch lo hi c → C04.Offered sent ops →
    WInv (SentQ sent) ch lo hi (C01.run c ops) ∧ Adds (WP lo) c (C01.run c ops) :=
  fun c h hoff => C01.side_run (winv_side hQF) ops c (C04.Offered.loopOK sent ops hoff) h

/-! ## delivered bunches, not only their numbers -/

def relBunches (ch : Nat) (g : List Bunch) : List Bunch := g.filter (onCh ch)

/-- the reliable bunches of channel `ch` that the log says were delivered, oldest first -/
def delivered (ch : Nat) : List Event → List Bunch
  | [] => []
  | .recv g :: rest => delivered ch rest ++ relBunches ch g
  | _ :: rest => delivered ch rest

theorem delivered_seqs (ch : Nat) (log : List Event) : (delivered ch log).map (·.chSeq) = relLog ch log := by
  fun_induction delivered ch log with
  | case1 => rfl
  | case2 g rest ih => rw [List.map_append, ih]; rfl
  | case3 ev rest hne ih => rw [ih, relLog.eq_3 ch ev rest hne]

theorem delivered_mem (ch : Nat) (log : List Event) (q : Bunch) (h : q ∈ delivered ch log) :
    ∃ g, Event.recv g ∈ log ∧ q ∈ g ∧ q.bReliable = true ∧ q.chIndex = ch := by
  fun_induction delivered ch log with
  | case1 => cases h
  | case2 g rest ih =>
    rcases List.mem_append.mp h with h | h
    · obtain ⟨g', h1, h2⟩ := ih h; exact ⟨g', List.mem_cons_of_mem _ h1, h2⟩
    · obtain ⟨h1, h2⟩ := List.mem_filter.mp h
      obtain ⟨hr, hc⟩ := (onCh_iff ch q).1 h2
      exact ⟨g, List.mem_cons_self, h1, hr, hc⟩
  | case3 ev rest _ ih =>
    obtain ⟨g', h1, h2⟩ := ih h
    exact ⟨g', List.mem_cons_of_mem _ h1, h2⟩

/-- what of a bunch the application sees, with its channel sequence number -/
def view (b : Bunch) : Bunch := { seen b with chSeq := b.chSeq }

theorem view_seq (b : Bunch) : (view b).chSeq = b.chSeq := rfl

theorem map_view_seq (l : List Bunch) : (l.map view).map (·.chSeq) = l.map (·.chSeq) := by
  rw [List.map_map]; exact List.map_congr_left fun b _ => view_seq b

theorem view_eq (q b : Bunch) (h1 : seen q = seen b) (h2 : q.chSeq = b.chSeq) : view q = view b := by
  unfold view; rw [h1, h2]

theorem sublist_of_increasing {α} (key : α → Int) : ∀ (L D : List α), (L.map key).Pairwise (· < ·) → (D.map key).Pairwise (· < ·) →
    (∀ d ∈ D, d ∈ L) → D.Sublist L := by
  intro L
  induction L with
  | nil =>
    intro D _ _ hm
    cases D with
    | nil => exact List.Sublist.slnil
    | cons d _ => cases hm d List.mem_cons_self
  | cons a L' ih =>
    intro D hL hD hm
    cases D with
    | nil => exact List.nil_sublist _
    | cons d D' =>
      rw [List.map_cons, List.pairwise_cons] at hL hD
      -- what follows `d` in `D` lies above `d`, which is not below the head `a`: it is in the tail
      have hD' : ∀ x ∈ D', x ∈ L' := fun x hx => List.mem_of_ne_of_mem (fun e => by
        have hdx := hD.1 _ (List.mem_map_of_mem hx)
        rcases List.mem_cons.mp (hm d List.mem_cons_self) with rfl | hd
        · rw [e] at hdx; exact Int.lt_irrefl _ hdx
        · have := hL.1 _ (List.mem_map_of_mem hd); rw [e] at hdx; exact Int.lt_asymm this hdx) (hm x (List.mem_cons_of_mem _ hx))
      rcases List.mem_cons.mp (hm d List.mem_cons_self) with rfl | hd
      · exact (ih D' hL.2 hD.2 hD').cons_cons _
      · exact (ih (d :: D') hL.2 (by rw [List.map_cons, List.pairwise_cons]; exact hD) (List.forall_mem_cons.mpr ⟨hd, hD'⟩)).cons _

theorem mem_relLog (ch : Nat) (log : List Event) (g : List Bunch) (q : Bunch) (hg : Event.recv g ∈ log) (hq : q ∈ g)
    (hr : q.bReliable = true) (hc : q.chIndex = ch) : q.chSeq ∈ relLog ch log := by
  -- the log is `newer ++ recv g :: older`, and `relLog` of it is `(relLog older ++ relOf g) ++ relLog newer`
  obtain ⟨newer, older, rfl⟩ := List.append_of_mem hg
  rw [relLog_append]
  exact List.mem_append_left _ (List.mem_append_right (relLog ch older)
    (List.mem_map.mpr ⟨q, List.mem_filter.mpr ⟨hq, (onCh_iff ch q).2 ⟨hr, hc⟩⟩, rfl⟩))

theorem accepted_length (ch : Nat) (sent : List Bunch) : (accepted ch sent).length = (relTags ch sent).length := by
  unfold accepted relTags; rw [List.length_reverse, List.length_map]

theorem accepted_seqs (ch : Nat) (sent : List Bunch) : ((accepted ch sent).map view).map (·.chSeq) = (relTags ch sent).reverse := by
  rw [map_view_seq]; unfold accepted relTags; rw [List.map_reverse]

theorem accepted_increasing (ch : Nat) (sent : List Bunch) (hdec : (relTags ch sent).Pairwise (· > ·)) :
    (((accepted ch sent).map view).map (·.chSeq)).Pairwise (· < ·) := by
  rw [accepted_seqs, List.pairwise_reverse]
  exact hdec.imp (fun h => h)

/-- `s, s+1, s+2, …` -/
def Asc : Int → List Int → Prop
  | _, [] => True
  | s, t :: rest => t = s ∧ Asc (s + 1) rest

theorem asc_ge : ∀ (l : List Int) (s : Int), Asc s l → ∀ t ∈ l, s ≤ t := by
  intro l
  induction l with
  | nil => intro s _ t ht; cases ht
  | cons a rest ih =>
    intro s h t ht
    simp only [Asc] at h
    rcases List.mem_cons.mp ht with rfl | ht
    · exact Int.le_of_eq h.1.symm
    · exact Int.le_of_lt (Int.lt_of_add_one_le (ih _ h.2 t ht))

theorem asc_snoc : ∀ (l : List Int) (s : Int), Asc s l → Asc s (l ++ [s + l.length]) := by
  intro l
  induction l with
  | nil => intro s _; simp [Asc]
  | cons a rest ih =>
    intro s h
    simp only [Asc] at h
    simp only [List.cons_append, Asc, List.length_cons]
    rw [Int.natCast_succ, Int.add_comm (rest.length : Int) 1, ← Int.add_assoc]
    exact ⟨h.1, ih _ h.2⟩

theorem asc_of_desc (lo : Int) : ∀ (l : List Int) (hi : Int), Desc lo hi l → Asc (lo + 1) l.reverse := by
  intro l
  induction l with
  | nil => intro hi _; simp [Asc]
  | cons t rest ih =>
    intro hi h
    simp only [Desc] at h
    obtain ⟨rfl, hr⟩ := h
    have h1 := ih _ hr
    obtain ⟨_, _, hlen⟩ := desc_facts lo _ _ hr
    have h2 := asc_snoc _ _ h1
    rw [List.reverse_cons]
    have e : lo + 1 + (rest.reverse.length : Int) = t := by rw [List.length_reverse]; omega
    rw [e] at h2; exact h2

theorem prefix_of_asc : ∀ (G L : List Bunch) (a : Int), Asc a (L.map (·.chSeq)) → Asc a (G.map (·.chSeq)) → (∀ x ∈ G, x ∈ L) →
    ∃ post, L = G ++ post := by
  intro G
  induction G with
  | nil => intro L a _ _ _; exact ⟨L, rfl⟩
  | cons z G' ih =>
    intro L a hL hG hm
    cases L with
    | nil => cases hm z List.mem_cons_self
    | cons w L' =>
      simp only [List.map_cons, Asc] at hL hG
      obtain ⟨hz, hG'⟩ := hG
      obtain ⟨hw, hL'⟩ := hL
      -- the tails are numbered from `a + 1`; so `z`, numbered `a`, is the head `w`, and the rest of the run is in the tail
      have hzw : z = w := Classical.byContradiction fun hne => by
        have := asc_ge _ _ hL' z.chSeq (List.mem_map_of_mem (List.mem_of_ne_of_mem hne (hm z List.mem_cons_self)))
        omega
      subst hzw
      obtain ⟨post, rfl⟩ := ih L' (a + 1) hL' hG' fun x hx => List.mem_of_ne_of_mem
        (fun e => by have := asc_ge _ _ hG' x.chSeq (List.mem_map_of_mem hx); rw [e] at this; omega)
        (hm x (List.mem_cons_of_mem _ hx))
      exact ⟨post, rfl⟩

theorem infix_of_asc : ∀ (L G : List Bunch) (a s : Int), Asc a (L.map (·.chSeq)) → Asc s (G.map (·.chSeq)) → (∀ x ∈ G, x ∈ L) →
    ∃ pre post, L = pre ++ G ++ post := by
  intro L
  induction L with
  | nil =>
    intro G a s _ _ hm
    cases G with
    | nil => exact ⟨[], [], rfl⟩
    | cons y _ => cases hm y List.mem_cons_self
  | cons x L' ih =>
    intro G a s hL hG hm
    cases G with
    | nil => exact ⟨[], x :: L', rfl⟩
    | cons y G' =>
      simp only [List.map_cons, Asc] at hL
      obtain ⟨hx, hL'⟩ := hL
      have hy : y.chSeq = s := hG.1
      by_cases hyx : y = x
      · -- the run starts with the head: it is a prefix
        subst hyx
        obtain rfl : s = a := hy.symm.trans hx
        obtain ⟨post, hp⟩ := prefix_of_asc (y :: G') (y :: L') s ⟨hx, hL'⟩ hG hm
        exact ⟨[], post, hp⟩
      · -- otherwise it starts in the tail, numbered from `a + 1`, and all of it lies there
        have hs : a + 1 ≤ s := hy ▸ asc_ge _ _ hL' y.chSeq (List.mem_map_of_mem (List.mem_of_ne_of_mem hyx (hm y List.mem_cons_self)))
        obtain ⟨pre, post, rfl⟩ := ih (y :: G') (a + 1) s hL' hG fun z hz => List.mem_of_ne_of_mem
          (fun e => by have := asc_ge _ _ hG z.chSeq (List.mem_map_of_mem hz); rw [e] at this; omega)
          (hm z hz)
        exact ⟨x :: pre, post, rfl⟩

end Utcp.Props.C01Link
