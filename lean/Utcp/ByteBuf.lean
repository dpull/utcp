import Utcp.Basic
/-!
# L-level model of `bit_buffer.c`: the byte array

`Utcp/BitIO.lean` models the primitives on lists of bits (what is written, what is read).  This file models
*how* `bit_buffer.c` does it: a byte array, a cursor, masks, shifts, `|=`, `+=`, the three phases of the
bit-run copier `appBitsCpy`.  Memory is a list of bytes with *partial* access: a read or a write outside the
array makes the whole operation return `none`.  "Stays inside the buffer" is therefore a theorem of the form
"the result is `some _`" for an array of exactly the size the property allows.

The functions follow the C text statement by statement (names as in the source); `Props/C12_Write.lean`,
`Props/C12_Read.lean` and `Props/C12_Bytes.lean` prove that they refine the bit-level model, and the driver runs them next to the compiled C code
(unit operation `bbs`, see PROTOCOL.md).
-/
namespace Utcp.BB

abbrev Mem := List Nat

/-- `p[i]` as an rvalue -/
def rd (m : Mem) (i : Nat) : Option Nat := m[i]?
/-- `p[i] = (uint8_t)v` -/
def wr (m : Mem) (i v : Nat) : Option Mem := if i < m.length then some (m.set i (v % 256)) else none
/-- `~x` on a `uint32_t` -/
def not32 (x : Nat) : Nat := 4294967295 ^^^ x

structure Buf where
  mem : Mem
  /-- capacity / logical end, in bits -/
  size : Nat
  /-- cursor, in bits -/
  num : Nat
  deriving Repr, BEq, DecidableEq

/-! ## `appBitsCpy` -/

/-- the `BitCount <= 8` path: at most two bytes read, at most two written -/
def cpySmall (dest : Mem) (destBit : Nat) (src : Mem) (srcBit count : Nat) : Option Mem :=
  let destIndex := destBit / 8
  let srcIndex := srcBit / 8
  let lastDest := (destBit + count - 1) / 8
  let lastSrc := (srcBit + count - 1) / 8
  let shiftSrc := srcBit % 8
  let shiftDest := destBit % 8
  let firstMask := 255 <<< shiftDest
  let lastMask := 254 <<< ((destBit + count - 1) % 8)
  (if srcIndex = lastSrc then (rd src srcIndex).bind fun a => some (a >>> shiftSrc)
   else (rd src srcIndex).bind fun a => (rd src lastSrc).bind fun b => some ((a >>> shiftSrc) ||| (b <<< (8 - shiftSrc)))).bind fun accu =>
  if destIndex = lastDest then
    let multiMask := firstMask &&& not32 lastMask
    (rd dest destIndex).bind fun d =>
    wr dest destIndex ((d &&& not32 multiMask) ||| ((accu <<< shiftDest) &&& multiMask))
  else
    (rd dest destIndex).bind fun d0 =>
    (wr dest destIndex ((d0 &&& not32 firstMask) ||| ((accu <<< shiftDest) &&& firstMask))).bind fun dest1 =>
    (rd dest1 lastDest).bind fun d1 =>
    wr dest1 lastDest ((d1 &&& lastMask) ||| ((accu >>> (8 - shiftDest)) &&& not32 lastMask))

/-- the fast inner loop: `for (; FullLoop > 1; FullLoop--)` -/
def cpyLoop : Nat → Mem → Mem → Nat → Nat → Nat → Nat → Option (Mem × Nat × Nat × Nat)
  | n+2, dest, src, si, di, acc, sc =>
    (rd src si).bind fun b =>
    let acc' := ((b <<< sc) + acc) >>> 8
    (wr dest di acc').bind fun dest' =>
    cpyLoop (n+1) dest' src (si+1) (di+1) acc' sc
  | _, dest, _, si, di, acc, _ => some (dest, si, di, acc)

/-- the main copier (`BitCount >= 9`): lead-in, byte loop, lead-out -/
def cpyMain (dest : Mem) (destBit : Nat) (src : Mem) (srcBit count : Nat) : Option Mem :=
  let destIndex := destBit / 8
  let firstSrcMask := 255 <<< (destBit % 8)
  let lastDest := (destBit + count) / 8
  let lastSrcMask := 255 <<< ((destBit + count) % 8)
  let srcIndex := srcBit / 8
  let lastSrc := (srcBit + count) / 8
  let destLoop := lastDest - destIndex
  let srcLoop := lastSrc - srcIndex
  -- lead-in: one or two source bytes depending on alignment
  (if srcBit % 8 ≤ destBit % 8 then
     let sc := destBit % 8 - srcBit % 8
     (rd src srcIndex).bind fun a => some (max destLoop srcLoop, a <<< sc, srcIndex, sc + 8)
   else
     let sc := destBit % 8 + 8 - srcBit % 8
     (rd src srcIndex).bind fun a => (rd src (srcIndex + 1)).bind fun b =>
       some (max destLoop (srcLoop - 1), ((b <<< (sc + 8)) + (a <<< sc)) >>> 8, srcIndex + 1, sc + 8)).bind
  fun (fullLoop, bitAccu, srcIndex, shiftCount) =>
  (rd dest destIndex).bind fun d0 =>
  (wr dest destIndex ((bitAccu &&& firstSrcMask) ||| (d0 &&& not32 firstSrcMask))).bind fun dest1 =>
  (cpyLoop fullLoop dest1 src (srcIndex + 1) (destIndex + 1) bitAccu shiftCount).bind
  fun (dest2, si, di, acc) =>
  if lastSrcMask ≠ 255 then
    (if (srcBit + count - 1) / 8 = si then (rd src si).bind fun b => some (((b <<< shiftCount) + acc) >>> 8)
     else some (acc >>> 8)).bind fun acc2 =>
    (rd dest2 di).bind fun dl =>
    wr dest2 di ((dl &&& lastSrcMask) ||| (acc2 &&& not32 lastSrcMask))
  else some dest2

/-- `appBitsCpy(Dest, DestBit, Src, SrcBit, BitCount)` -/
def appBitsCpy (dest : Mem) (destBit : Nat) (src : Mem) (srcBit count : Nat) : Option Mem :=
  if count = 0 then some dest
  else if count ≤ 8 then cpySmall dest destBit src srcBit count
  else cpyMain dest destBit src srcBit count

/-! ## writers -/

def allowOpt (b : Buf) (n : Nat) : Bool := b.num + n ≤ b.size

/-- `buffer[num >> 3] |= GShift[num & 7]` -/
def orBit (m : Mem) (pos : Nat) : Option Mem :=
  (rd m (pos / 8)).bind fun x => wr m (pos / 8) (x ||| (1 <<< (pos % 8)))
/-- `buffer[num >> 3] += GShift[num & 7]` -/
def addBit (m : Mem) (pos : Nat) : Option Mem :=
  (rd m (pos / 8)).bind fun x => wr m (pos / 8) (x + (1 <<< (pos % 8)))

/-- `bitbuf_write_bit` -/
def writeBit (b : Buf) (v : Nat) : Option (Bool × Buf) :=
  if !allowOpt b 1 then some (false, b)
  else if v % 256 ≠ 0 then (orBit b.mem b.num).bind fun m => some (true, { b with mem := m, num := b.num + 1 })
  else some (true, { b with num := b.num + 1 })

/-- `bitbuf_write_bits` -/
def writeBits (b : Buf) (data : Mem) (n : Nat) : Option (Bool × Buf) :=
  if !allowOpt b n then some (false, b)
  else if n = 1 then
    (rd data 0).bind fun s =>
    if s &&& 1 ≠ 0 then (orBit b.mem b.num).bind fun m => some (true, { b with mem := m, num := b.num + 1 })
    else some (true, { b with num := b.num + 1 })
  else (appBitsCpy b.mem b.num data 0 n).bind fun m => some (true, { b with mem := m, num := b.num + n })

/-- `bitbuf_write_bytes` -/
def writeBytes (b : Buf) (data : Mem) (size : Nat) : Option (Bool × Buf) :=
  if !allowOpt b (size * 8) then some (false, b)
  else (appBitsCpy b.mem b.num data 0 (size * 8)).bind fun m => some (true, { b with mem := m, num := b.num + size * 8 })

/-- `CeilLogTwo`: the bit length of `(uint32_t)(x - 1)` (the 256-entry table holds the bit length of a byte), i.e. the smallest `k` with `x ≤ 2^k`; 32 for 0 -/
def ceilLogTwo (x : Nat) : Nat := if x = 0 then 32 else if x = 1 then 0 else Nat.log2 (x - 1) + 1

/-- the loop of `bitbuf_write_int` / `bitbuf_write_int_wrapped`: `for (Mask = 1; NewValue + Mask < max && Mask; Mask *= 2, pos++)` -/
def wIntLoop : Nat → Mem → Nat → Nat → Nat → Nat → Nat → Option (Mem × Nat)
  | 0, m, _, _, _, _, pos => some (m, pos)
  | fuel+1, m, v, mx, mask, nv, pos =>
    if nv + mask < mx ∧ mask < 4294967296 then
      if v &&& mask ≠ 0 then (addBit m pos).bind fun m' => wIntLoop fuel m' v mx (mask * 2) (nv + mask) (pos + 1)
      else wIntLoop fuel m v mx (mask * 2) nv (pos + 1)
    else some (m, pos)

/-- `bitbuf_write_int` (`value_max >= 2` is asserted by the C code) -/
def writeInt (b : Buf) (v mx : Nat) : Option (Bool × Buf) :=
  if v ≥ mx then some (false, b)
  else if !allowOpt b (ceilLogTwo mx) then some (false, b)
  else (wIntLoop 33 b.mem v mx 1 0 b.num).bind fun (m, pos) => some (true, { b with mem := m, num := pos })

/-- `bitbuf_write_int_wrapped` -/
def writeIntWrapped (b : Buf) (v mx : Nat) : Option (Bool × Buf) :=
  if !allowOpt b (ceilLogTwo mx) then some (false, b)
  else (wIntLoop 33 b.mem v mx 1 0 b.num).bind fun (m, pos) => some (true, { b with mem := m, num := pos })

/-- the first loop of `bitbuf_write_int_packed`: the value cut into 7-bit groups with a continuation bit -/
def packedWords : Nat → Nat → List Nat
  | 0, _ => []
  | fuel+1, v =>
    let next := if v / 128 ≠ 0 then 1 else 0
    ((v % 128) * 2 + next) :: (if v / 128 ≠ 0 then packedWords fuel (v / 128) else [])

/-- the second loop of `bitbuf_write_int_packed`: each byte straddles two destination bytes unless the cursor is byte aligned -/
def packedStore : List Nat → Mem → Nat → Nat → Option Mem
  | [], m, _, _ => some m
  | w :: ws, m, di, used =>
    let mask0 := (1 <<< used) - 1
    let mask1 := 255 ^^^ mask0
    (rd m di).bind fun x0 =>
    (wr m di ((x0 &&& mask0) ||| ((w <<< used) % 256))).bind fun m1 =>
    if used ≠ 0 then
      (rd m1 (di + 1)).bind fun x1 =>
      (wr m1 (di + 1) ((x1 &&& mask1) ||| ((w >>> (8 - used)) % 256))).bind fun m2 =>
      packedStore ws m2 (di + 1) used
    else packedStore ws m1 (di + 1) used

/-- `bitbuf_write_int_packed` -/
def writeIntPacked (b : Buf) (v : Nat) : Option (Bool × Buf) :=
  let ws := packedWords 5 (v % 4294967296)
  if !allowOpt b (ws.length * 8) then some (false, b)
  else (packedStore ws b.mem (b.num / 8) (b.num % 8)).bind fun m => some (true, { b with mem := m, num := b.num + ws.length * 8 })

/-- the four bytes of a `uint32_t` in memory (little endian host) -/
def u32Bytes (v : Nat) : Mem := [v % 256, v / 256 % 256, v / 65536 % 256, v / 16777216 % 256]

/-- `bitbuf_write_int_byte_order` -/
def writeU32 (b : Buf) (v : Nat) : Option (Bool × Buf) := writeBytes b (u32Bytes v) 4

/-- `bitbuf_write_end` -/
def writeEnd (b : Buf) : Option (Bool × Buf) := writeBit b 1

/-! ## readers -/

/-- the `while (!(LastByte & 0x80)) { LastByte *= 2; CountBits--; }` loop of `bitbuf_read_init` -/
def initLoop : Nat → Nat → Nat → Nat
  | 0, _, cnt => cnt
  | fuel+1, last, cnt => if last &&& 128 = 0 then initLoop fuel (last * 2 % 256) (cnt - 1) else cnt

/-- `bitbuf_read_init(buff, data, len)`; `data` is the array of exactly `len` bytes -/
def readInit (data : Mem) : Option (Bool × Buf) :=
  if data.length = 0 then some (false, ⟨data, 0, 0⟩)
  else (rd data (data.length - 1)).bind fun last =>
    if last = 0 then some (false, ⟨data, 0, 0⟩)
    else some (true, ⟨data, initLoop 8 last (data.length * 8 - 1), 0⟩)

/-- `buffer[num >> 3] & Shift(num & 7)` -/
def testAt (m : Mem) (pos : Nat) : Option Bool :=
  (rd m (pos / 8)).bind fun x => some (x &&& (1 <<< (pos % 8)) ≠ 0)

/-- `bitbuf_read_bit` -/
def readBit (b : Buf) : Option (Bool × Nat × Buf) :=
  if !allowOpt b 1 then some (false, 0, b)
  else (testAt b.mem b.num).bind fun t => some (true, (if t then 1 else 0), { b with num := b.num + 1 })

/-- `bitbuf_read_bits(buff, buffer, bits_size)`; `out` is the caller's array.  Returns it as left by the call. -/
def readBits (b : Buf) (out : Mem) (n : Nat) : Option (Bool × Mem × Buf) :=
  if !allowOpt b n then some (false, out, b)
  else if n = 1 then
    (wr out 0 0).bind fun o0 =>
    (testAt b.mem b.num).bind fun t =>
    if t then (rd o0 0).bind fun x => (wr o0 0 (x ||| 1)).bind fun o1 => some (true, o1, { b with num := b.num + 1 })
    else some (true, o0, { b with num := b.num + 1 })
  else if n ≠ 0 then
    (wr out ((n + 7) / 8 - 1) 0).bind fun o0 =>
    (appBitsCpy o0 0 b.mem b.num n).bind fun o1 => some (true, o1, { b with num := b.num + n })
  else some (true, out, b)

/-- `bitbuf_read_bytes` -/
def readBytes (b : Buf) (out : Mem) (size : Nat) : Option (Bool × Mem × Buf) := readBits b out (size * 8)

/-- the loop of `bitbuf_read_int`; the cursor is only written back on success -/
def rIntLoop : Nat → Mem → Nat → Nat → Nat → Nat → Nat → Option (Option (Nat × Nat))
  | 0, _, _, _, _, value, pos => some (some (value, pos))
  | fuel+1, m, size, mx, mask, value, pos =>
    if value + mask < mx ∧ mask < 4294967296 then
      if pos ≥ size then some none
      else (testAt m pos).bind fun t => rIntLoop fuel m size mx (mask * 2) (if t then value ||| mask else value) (pos + 1)
    else some (some (value, pos))

/-- `bitbuf_read_int` -/
def readInt (b : Buf) (mx : Nat) : Option (Bool × Nat × Buf) :=
  (rIntLoop 33 b.mem b.size mx 1 0 b.num).bind fun r =>
  match r with
  | none => some (false, 0, b)
  | some (v, pos) => some (true, v, { b with num := pos })

/-- the loop of `bitbuf_read_int_packed`; `num` advances by 8 per byte group, also before a later failure.
`Src[NextSrcIndex]` is read even when it contributes no bit (mask 0) only if `NextSrcIndex` is 1, i.e. the cursor is not byte aligned. -/
def rPackedLoop : Nat → Mem → Nat → Nat → Nat → Nat → Nat → Nat → Option (Bool × Nat × Nat)
  | 0, _, _, num, _, _, _, value => some (true, value, num)
  | fuel+1, m, size, num, si, used, shift, value =>
    if num + 8 > size then some (false, value, num)
    else
      let left := 8 - used
      let mask0 := ((1 <<< left) - 1) % 256
      let mask1 := ((1 <<< used) - 1) % 256
      (rd m si).bind fun s0 =>
      (if used ≠ 0 then rd m (si + 1) else rd m si).bind fun s1 =>
      let byte := (((s0 >>> used) &&& mask0) ||| ((s1 &&& mask1) <<< (left % 8))) % 256
      let value' := (((byte >>> 1) <<< shift) ||| value) % 4294967296
      if byte &&& 1 = 0 then some (true, value', num + 8)
      else rPackedLoop fuel m size (num + 8) (si + 1) used (shift + 7) value'

/-- `bitbuf_read_int_packed` -/
def readIntPacked (b : Buf) : Option (Bool × Nat × Buf) :=
  (rPackedLoop 5 b.mem b.size b.num (b.num / 8) (b.num % 8) 0 0).bind fun (ok, v, num) =>
  some (ok, (if ok then v else 0), { b with num := num })

/-- `bitbuf_read_int_byte_order` -/
def readU32 (b : Buf) : Option (Bool × Nat × Buf) :=
  (readBits b [0, 0, 0, 0] 32).bind fun (ok, o, b') =>
  some (ok, (if ok then o.getD 0 0 + 256 * o.getD 1 0 + 65536 * o.getD 2 0 + 16777216 * o.getD 3 0 else 0), b')

end Utcp.BB
