import Utcp.Props.C01_Link
import Utcp.Props.C03
/-!
# C03, across the link — a delivered reliable group is a contiguous run of what the sender sent

`Props/C03.lean` proves that every callback carries one bunch or one complete, well-shaped group.  With the two ends put together
(`Props/C01_Link.lean`): the fragments of a reliable group handed to the receiving application are — in everything the application
sees and in their sequence numbers — a *contiguous run* of the reliable bunches the sender accepted on that channel, in sending order:
nothing missing in the middle, nothing foreign mixed in, nothing reordered.

*Partial* in the same way as `C01Link.numbers_agree_partial`: fewer than 1024 reliable bunches on the channel, one incarnation of the
channel; unreliable groups are not covered (their fragments carry packet ids, not channel sequence numbers).
-/
namespace Utcp.Props.C03Link
open Utcp Utcp.Gen Utcp.Props Utcp.Props.C01Link Utcp.Partial

theorem tail_asc : ∀ (l : List Bunch) (p : Bunch), Shape.Tail p l → (∀ q ∈ l, q.bReliable = true) → Asc (p.chSeq + 1) (l.map (·.chSeq)) := by
  intro l
  induction l with
  | nil => intro p _ _; simp [Asc]
  | cons b rest ih =>
    intro p h hr
    simp only [Shape.Tail] at h
    obtain ⟨_, _, _, hf, ht⟩ := h
    have hb := hr b List.mem_cons_self
    unfold Follows at hf
    simp only [hb, if_true] at hf
    simp only [List.map_cons, Asc]
    refine ⟨hf.2, ?_⟩
    have := ih b ht (fun q hq => hr q (List.mem_cons_of_mem _ hq))
    rw [hf.2] at this; exact this

theorem group_asc (g : List Bunch) (h : GroupOK g) (hr : ∀ q ∈ g, q.bReliable = true) : ∃ s, Asc s (g.map (·.chSeq)) := by
  rcases h with ⟨b, rfl, _⟩ | ⟨hs, _, _, _⟩
  · exact ⟨b.chSeq, by simp [Asc]⟩
  · cases g with
    | nil => exact ⟨0, by simp [Asc]⟩
    | cons b rest =>
      simp only [Shape] at hs
      refine ⟨b.chSeq, ?_⟩
      simp only [List.map_cons, Asc, true_and]
      exact tail_asc rest b hs.2.2 (fun q hq => hr q (List.mem_cons_of_mem _ hq))

/-- **a delivered reliable group is a contiguous run of the sender's bunches** (hypotheses of `C01Link.numbers_agree_partial`): for every
callback of the receiver all of whose bunches are reliable bunches of channel `ch`, the bunches — compared on everything the
application sees and the channel sequence number — form a contiguous segment of the reliable bunches the sender accepted on `ch`, in
sending order -/
theorem delivered_group_is_a_run_partial (mb mg : Nat) (hfit : mg < 2 ^ mb) (ch : Nat)
    (opsS : List (Env × C01.Op)) (hS : ∀ p ∈ opsS, p.1.magicBits = mb ∧ p.1.magic = mg) (iS oS : Int)
    (opsR : List (Env × C01.Op)) (hR : ∀ p ∈ opsR, p.1.magicBits = mb ∧ p.1.magic = mg) (iR oR : Int)
    (hmirror : oS % 1024 = iR % 1024)
    (hlink : C04.FromLink (C01.run (({} : Conn).seqInit iS oS) opsS) opsR)
    (hsmall : (accepted ch (sentOf (({} : Conn).seqInit iS oS) opsS [])).length < 1024)
    (g : List Bunch) (hg : Event.recv g ∈ (C01.run (({} : Conn).seqInit iR oR) opsR).log)
    (hall : ∀ q ∈ g, q.bReliable = true ∧ q.chIndex = ch) :
    ∃ pre post, (accepted ch (sentOf (({} : Conn).seqInit iS oS) opsS [])).map view = pre ++ g.map view ++ post := by
  have hgrp : GroupOK g := by
    rcases C03.every_callback_is_a_group opsR _ (C03.fresh_groups iR oR) g hg with h | h
    · cases h
    · exact h
  obtain ⟨s, hs⟩ := group_asc g hgrp (fun q hq => (hall q hq).1)
  have hdesc := sender_numbers_consecutively ch opsS iS oS
  have hL : Asc (oS % 1024 + 1) (((accepted ch (sentOf (({} : Conn).seqInit iS oS) opsS [])).map view).map (·.chSeq)) := by
    rw [accepted_seqs]
    exact asc_of_desc _ _ _ hdesc
  have hG : Asc s ((g.map view).map (·.chSeq)) := by rw [map_view_seq]; exact hs
  refine infix_of_asc _ _ _ _ hL hG ?_
  intro x hx
  obtain ⟨q, hq, rfl⟩ := List.mem_map.mp hx
  obtain ⟨b, hb, hseen, heq⟩ := numbers_agree_partial mb mg hfit ch opsS hS iS oS opsR hR iR oR hmirror hlink hsmall g hg q hq (hall q hq).1 (hall q hq).2
  exact List.mem_map.mpr ⟨b, hb, (view_eq q b hseen heq).symm⟩

end Utcp.Props.C03Link
