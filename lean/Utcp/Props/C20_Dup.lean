import Utcp.Props.C20_Reorder
/-! # C20, continued: a duplicate of a datagram that was already accepted is invisible -/
namespace Utcp.Props.C20
open Utcp Utcp.Gen

/-- **a duplicate is invisible**: a genuine data datagram whose id is not ahead of the counter any more (it, or a later one, was accepted before), handed
to the core of a receiver that has already heard a datagram with the same session / client id at this clock reading, leaves the endpoint exactly as it
was - nothing delivered, nothing acknowledged, no field changed.  Through the wrapper the same: its peek is non-positive, so it bypasses the cache. -/
theorem duplicate_is_invisible {T} (tm : TimeOps T) (e : Env) (w : Wrapped) (rng : Rng) (d : List UInt8) (key A O : Int)
    (bits : Bits) (s c : Nat) (rest : Bits) (hri : readInit d = some bits) (hro : readOutgoingHeader e bits = .ok (s, c, false) rest)
    (hd : DataDg e d (key % 16384) A) (hparse : ∃ h body, decodePacketHeader rest.dropLast = .ok (h, body)) (hR : RBurst A O w.ep)
    (hheard : w.ep.c.lastSessionId = s ∧ w.ep.c.lastClientId = c ∧ w.ep.c.lastRecvMs = e.nowMs)
    (hAA : seq_num_greater_equal A A = true) (hOA : seq_num_greater_than O A = true)
    (hw : key ≤ w.ep.c.inPacketId ∧ w.ep.c.inPacketId - key < 8192) :
    w.incoming tm e rng d = (w, rng) := by
  have hpk := (peek_burst e w.ep d key A O hd hR hAA hOA
    ⟨window_flip.mp hw.2, Int.lt_of_le_of_lt (Int.sub_nonpos_of_le hw.1) (by decide)⟩).2 hw.1
  obtain ⟨bits', s', c', rest', hri', hro', hdec, hinc⟩ := hd.incoming tm w.ep rng
  rw [hri] at hri'; cases hri'
  rw [hro] at hro'; cases hro'
  unfold Wrapped.incoming
  simp only [hpk, if_true]
  obtain ⟨h, body, hdp⟩ := hparse
  -- the receiver has heard this session / client id at this clock reading before (`heard_again`), and the header is behind the counter
  rw [hinc, heard_again e w.ep.c s c hheard.1 hheard.2.1 hheard.2.2, receivedPacket_behind e w.ep.c rest.dropLast h body key hR.2.2 hdp (hdec h body hdp).1 hw]
  -- what is left is `({ w with ep := { w.ep with c := w.ep.c } }, rng) = (w, rng)`: closed by `rfl` inside `rw`

end Utcp.Props.C20
