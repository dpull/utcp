import Utcp.Props.C09_Incoming
import Utcp.Lemmas.Frame
/-!
# C09 at the level of the byte array: `bitbuf_read_init` is the bit-level `readInit`

`bitbuf_read_init` on the datagram's byte array (look at the last byte, shift it until the terminator is found) computes the read buffer whose remaining bits
are exactly what the bit-level `Utcp.readInit` returns (strip the trailing zeros and the terminating 1 of the bit string), and refuses exactly when that does.
With `Props/C09_Incoming.lean` this closes the path from the raw bytes handed to `utcp_incoming` to `Endpoint.incoming` for data datagrams.
-/
namespace Utcp.BB
open Utcp

/-- the datagram as the byte array of the byte-level model -/
def memOf (bytes : List UInt8) : Mem := bytes.map (·.toNat)

theorem memOf_ok (bytes : List UInt8) : BytesOK (memOf bytes) := by
  intro x hx
  obtain ⟨b, _, rfl⟩ := List.mem_map.mp hx
  exact b.toNat_lt

theorem wordsBits_memOf (bytes : List UInt8) : wordsBits (memOf bytes) = bytesToBits bytes := by
  induction bytes with
  | nil => rfl
  | cons b bs ih => exact congrArg (natToBits b.toNat 8 ++ ·) ih

theorem bytesToBits_eq (bytes : List UInt8) : bitsFrom (memOf bytes) 0 (8 * bytes.length) = bytesToBits bytes := by
  rw [← wordsBits_memOf, ← bitsFrom_eq_wordsBits _ (memOf_ok bytes), memOf, List.length_map]

/-- a byte array whose last byte is not zero has a highest set bit, and it lies in that byte: the terminator `bitbuf_read_init` looks for -/
theorem terminator_exists (data : Mem) (hd : BytesOK data) (hne : data.getD (data.length - 1) 0 ≠ 0) :
    ∃ n, n / 8 + 1 = data.length ∧ bit data n = true ∧ ∀ k, n < k → bit data k = false := by
  have hl : data.length ≠ 0 := fun h0 => hne (by rw [List.eq_nil_of_length_eq_zero h0]; rfl)
  obtain ⟨L, hL⟩ : ∃ L, data.length = L + 1 := ⟨data.length - 1, (Nat.succ_pred_eq_of_ne_zero hl).symm⟩
  rw [hL, Nat.add_sub_cancel] at hne
  have hx256 := getD_lt_256 data hd L
  generalize hx : data.getD L 0 = x at hne hx256
  -- the highest set bit of the last byte
  have hj8 : x.log2 < 8 := (Nat.log2_lt hne).mpr hx256
  refine ⟨8 * L + x.log2, by rw [div8 L _ hj8, hL], by rw [bit_at _ _ _ hj8, hx]; exact Nat.testBit_log2 hne, fun k hk => ?_⟩
  by_cases hin : k < 8 * data.length
  · obtain ⟨i, rfl⟩ := Nat.exists_eq_add_of_le (Nat.le_of_lt (Nat.lt_of_le_of_lt (Nat.le_add_right _ _) hk))
    rw [bit_at _ _ _ (by omega), hx]
    exact Nat.testBit_lt_two_pow (Nat.lt_of_lt_of_le Nat.lt_log2_self (Nat.pow_le_pow_right (by decide) (Nat.lt_of_add_lt_add_left hk)))
  · exact bit_oob _ _ (Nat.le_of_not_lt hin)

theorem bitsFrom_zeros (m : Mem) (lo k : Nat) (hz : ∀ i, lo ≤ i → bit m i = false) : bitsFrom m lo k = List.replicate k false := by
  induction k generalizing lo with
  | zero => rfl
  | succ k ih => rw [bitsFrom, hz lo (Nat.le_refl _), ih (lo + 1) fun i hi => hz i (Nat.le_of_succ_le hi), List.replicate_succ]

theorem bitsFrom_terminated (m : Mem) (n k : Nat) (hterm : bit m n = true) (hz : ∀ i, n < i → bit m i = false) :
    bitsFrom m 0 (n + (1 + k)) = bitsFrom m 0 n ++ [true] ++ List.replicate k false := by
  rw [bitsFrom_append, bitsFrom_append, Nat.zero_add, bitsFrom_zeros m (n + 1) k fun i hi => hz i hi, List.append_assoc]
  show _ ++ ([bit m n] ++ _) = _
  rw [hterm]

/-- the bit-level `readInit` decides on the condition of the byte-level one (`readInit_eq`) -/
theorem readInit_cases (bytes : List UInt8) : Utcp.readInit bytes =
    if (memOf bytes).length = 0 ∨ (memOf bytes).getD ((memOf bytes).length - 1) 0 = 0 then none
    else some (stripTrailing (bytesToBits bytes)).dropLast := by
  unfold Utcp.readInit memOf
  rw [List.length_map, List.getD_eq_getElem?_getD, List.getElem?_map, ← List.getLast?_eq_getElem?]
  cases hl : bytes.getLast? with
  | none => rw [List.getLast?_eq_none_iff.mp hl]; rfl
  | some last =>
    have hne : bytes.length ≠ 0 := fun h0 => by rw [List.eq_nil_of_length_eq_zero h0] at hl; cases hl
    have h0 : (last == 0) = true ↔ last.toNat = 0 := by rw [beq_iff_eq]; exact UInt8.toNat_inj.symm
    simp only [Option.map_some, Option.getD_some, hne, false_or, h0]

/-- **`bitbuf_read_init` accepts**: if the bit-level `readInit` yields the bits `l`, the byte-level one yields the read buffer over the same array whose
remaining bits are `l` -/
theorem readInit_accepts (bytes : List UInt8) (l : Bits) (h : Utcp.readInit bytes = some l) :
    ∃ n, readInit (memOf bytes) = some (true, ⟨memOf bytes, n, 0⟩) ∧ rest ⟨memOf bytes, n, 0⟩ = l ∧ RB ⟨memOf bytes, n, 0⟩ := by
  rw [readInit_cases] at h
  split at h
  · cases h
  · rename_i hne
    simp only [Option.some.injEq] at h
    obtain ⟨n, hn, hterm, hz⟩ := terminator_exists (memOf bytes) (memOf_ok bytes) fun h0 => hne (Or.inr h0)
    have hinit := readInit_spec _ (memOf_ok bytes) n hn hterm hz
    refine ⟨n, hinit, ?_, read_init_gives_rb _ (memOf_ok bytes) _ hinit⟩
    -- the bit string = the `n` bits below the terminator, the terminator, zeros
    have hmlen : (memOf bytes).length = bytes.length := List.length_map ..
    have hlt : n < 8 * bytes.length := hmlen ▸ hn ▸ Nat.lt_mul_div_succ n (by decide)
    obtain ⟨k, hk⟩ := Nat.exists_eq_add_of_lt hlt
    rw [← h, ← bytesToBits_eq, hk, Nat.add_assoc, Nat.add_comm k 1, bitsFrom_terminated _ n k hterm hz, stripTrailing_terminated]
    simp [rest]

/-- **`bitbuf_read_init` refuses** the datagrams the bit-level `readInit` refuses (and, by `readInit_accepts`, no others): the empty one and those whose last
byte is zero -/
theorem readInit_refuses_link (bytes : List UInt8) (h : Utcp.readInit bytes = none) : ∃ rb, readInit (memOf bytes) = some (false, rb) := by
  rw [readInit_cases] at h
  split at h
  · exact readInit_refuses _ ‹_›
  · cases h

/-- **`utcp_incoming` on the bytes of a data datagram, end to end**: for every byte string handed to `utcp_incoming` that `bitbuf_read_init` accepts, the byte-level
path — `bitbuf_read_init` on the array, then the data path of `Props/C09_Incoming.lean` — touches nothing outside the datagram, the small locals and the nodes,
and for a datagram that is not a handshake datagram ends in exactly the connection state and return value of the bit-level `Endpoint.incoming` (whatever the
nodes and locals contained) -/
theorem incoming_bytes_refines {T} (tm : TimeOps T) (e : Env) (he : e.magicBits ≤ 32) (rng : Rng) (ep : Endpoint) (bytes : List UInt8) (bits : Bits)
    (hinit : Utcp.readInit bytes = some bits) (m4 s1 c1 fb : Mem) (hm : BytesOK m4) (hs : BytesOK s1) (hc : BytesOK c1) (hfb : BytesOK fb)
    (lm : 4 ≤ m4.length) (ls : 1 ≤ s1.length) (lc : 1 ≤ c1.length) (lfb : 1 ≤ fb.length) (nodes : Nat → Mem) (hn : NodesOK nodes) :
    ∃ rb r, readInit (memOf bytes) = some (true, rb) ∧ lIncomingData e ep.c m4 s1 c1 fb nodes rb = some r ∧
      ∀ s cl rst, readOutgoingHeader e bits = .ok (s, cl, false) rst →
        r = some ((ep.incoming tm e rng bytes).1.c, (ep.incoming tm e rng bytes).2.2) := by
  obtain ⟨n, h1, hrest, hrb⟩ := readInit_accepts bytes bits hinit
  obtain ⟨r, h2, h3⟩ := lIncomingData_refines e he ep.c m4 s1 c1 fb hm hs hc hfb lm ls lc lfb nodes hn _ hrb
  refine ⟨_, r, h1, h2, ?_⟩
  intro s cl rst hh
  rw [hrest, hh] at h3
  rw [incoming_data_eq tm e rng ep bytes bits rst s cl hinit hh]
  exact h3

/-! non-vacuity: the datagram `[0x05]` (two bits `1 0`, terminator at bit 2) -/
example : Utcp.readInit [5] = some [true, false] := by decide

end Utcp.BB
