import Utcp.Props.C09_Header
import Utcp.Lemmas.Conn
/-!
# C09 at the level of the byte array: `ReceivedPacket` as a whole

`ReceivedPacket` (`utcp_packet.c`) reads the datagram through the bit buffer in three places only: `packet_header_read`, the loop condition
`bitbuf->num < bitbuf->size`, and one `utcp_bunch_read` per iteration into a node that comes fresh from the allocator.  Everything else it does is state handling
that never looks at the buffer.  This file writes that structure down over the byte-array model (`lReceivedPacket`), with the state handling *shared* with the
bit-level model (`handleDecoded` is `Conn.receivedRawBunch` minus the decoding, `receivedRawBunch_eq`), and proves:

* `lReceivedPacket_refines` — for every datagram image, cursor and logical end, every connection state, and whatever the allocator's nodes contain, the byte-level
  `ReceivedPacket` touches no byte outside the datagram's valid bytes, the header's `FrameTimeByte` and the data arrays of its nodes, and ends in exactly the
  state and return value of the bit-level `Conn.receivedPacket` — the function all the history theorems (C01–C04, C10, C16, C18) are about;
* `received_packet_independent_of_node_contents` (C17) — so two runs whose nodes held different garbage end in the same state.
-/
namespace Utcp.BB
open Utcp

/-- `ReceivedRawBunch` after `utcp_bunch_read` has returned: the state handling (`none` = the read failed) -/
def handleDecoded (c : Conn) : Option Bunch → Conn × Bool
  | none => (((c.emit (.alloc .node)).markClose crBunchOverflow).emit (.free .node), false)
  | some b =>
    let c := c.emit (.alloc .node)
    let b := { b with packetId := c.inPacketId }
    if b.chIndex ≥ maxChannels then ((c.markClose crBunchBadChannelIndex).emit (.free .node), false) else
    match (c.getOrCreateChan b true).2 with
    | none => ((c.getOrCreateChan b true).1.emit (.free .node), false)
    | some x =>
      let r := (c.getOrCreateChan b true).1.processBunch x (absSeq (c.getOrCreateChan b true).1 x b)
      (r.1.dispatchAll b.chIndex, r.2)

theorem receivedRawBunch_eq (c : Conn) (bits : Bits) :
    c.receivedRawBunch bits = (match decodeBunch bits with
      | .fail rest => ((handleDecoded c none).1, rest, (handleDecoded c none).2)
      | .ok b rest => ((handleDecoded c (some b)).1, rest, (handleDecoded c (some b)).2)) := by
  unfold Conn.receivedRawBunch handleDecoded
  cases decodeBunch bits with
  | fail rest => rfl
  | ok b rest =>
    simp only
    by_cases hch : b.chIndex ≥ maxChannels
    · simp only [hch, if_true]
    · simp only [hch, if_false]
      generalize (c.emit (.alloc .node)).getOrCreateChan _ true = g
      rcases g with ⟨g1, g2⟩
      cases g2 <;> rfl

/-- the bunch loop of `ReceivedPacket` on the byte array; `nodes k` is the data array of the node the allocator hands out for the iteration with `k` iterations
still allowed — any contents -/
def lBunchLoop (nodes : Nat → Mem) : Nat → Conn → Buf → Bool → Option (Conn × Buf × Bool)
  | 0, c, b, skip => some (c, b, skip)
  | fuel + 1, c, b, skip =>
    if b.num < b.size then
      match lDecodeBunch (nodes fuel) b with
      | none => none
      | some (r, b') => lBunchLoop nodes fuel (handleDecoded c r).1 b' (skip || (handleDecoded c r).2)
    else some (c, b, skip)

theorem rest_isEmpty (b : Buf) (hb : RB b) : (rest b).isEmpty = !decide (b.num < b.size) := by
  have hl := rest_length b
  by_cases h : b.num < b.size
  · have : rest b ≠ [] := List.ne_nil_of_length_pos (hl ▸ Nat.sub_pos_of_lt h)
    simp [h, this]
  · have : rest b = [] := List.eq_nil_of_length_eq_zero (hl.trans (Nat.sub_eq_zero_of_le (Nat.le_of_not_lt h)))
    simp [h, this]

/-- what the allocator may hand out: arrays of bytes, at least 1024 of them (the library's nodes hold 1452) -/
def NodesOK (nodes : Nat → Mem) : Prop := ∀ k, BytesOK (nodes k) ∧ 1024 ≤ (nodes k).length

theorem lBunchLoop_refines (nodes : Nat → Mem) (hn : NodesOK nodes) : ∀ (fuel : Nat) (c : Conn) (b : Buf) (skip : Bool), RB b →
    ∃ c' b' s, lBunchLoop nodes fuel c b skip = some (c', b', s) ∧ RB b' ∧ b'.mem = b.mem ∧ b'.size = b.size ∧
      Conn.bunchLoop fuel c (rest b) skip = (c', rest b', s) := by
  intro fuel
  induction fuel with
  | zero => intro c b skip hb; exact ⟨c, b, skip, rfl, hb, rfl, rfl, rfl⟩
  | succ fuel ih =>
    intro c b skip hb
    unfold lBunchLoop Conn.bunchLoop
    rw [rest_isEmpty b hb]
    by_cases hlt : b.num < b.size
    · simp only [hlt, decide_true, Bool.not_true, Bool.false_eq_true, if_false, if_true]
      obtain ⟨r, b1, h1, hrb1, hm1, hs1, hS1⟩ := lDecodeBunch_refines (nodes fuel) (hn fuel).1 (hn fuel).2 b hb
      rw [h1, receivedRawBunch_eq, hS1]
      obtain ⟨c', b', s, h2, hrb2, hm2, hs2, hS2⟩ := ih (handleDecoded c r).1 b1 (skip || (handleDecoded c r).2) hrb1
      refine ⟨c', b', s, h2, hrb2, hm2.trans hm1, hs2.trans hs1, ?_⟩
      cases r <;> exact hS2
    · simp only [hlt, decide_false, Bool.not_false, if_true, if_false]
      exact ⟨c, b, skip, rfl, hb, rfl, rfl, rfl⟩

/-- `ReceivedPacket` on the byte array -/
def lReceivedPacket (e : Env) (c : Conn) (frameTimeByte : Mem) (nodes : Nat → Mem) (b : Buf) : Option (Conn × Bool) :=
  match lDecodePacketHeader frameTimeByte b with
  | none => none
  | some (.error reason, _) => some (c.markClose reason, false)
  | some (.ok h, b1) =>
    let delta := c.notify.deltaSeq h
    if delta ≤ 0 then some (c, !decide (b1.num < b1.size)) else
    let c := { c with inPacketId := c.inPacketId + delta }
    let c := c.notifyUpdate e h
    match lBunchLoop nodes (b1.size - b1.num + 1) c b1 false with
    | none => none
    | some (c, b2, skip) =>
      let c := { c with notify := c.notify.ackSeq c.inPacketId (!skip) }
      some (c, !decide (b2.num < b2.size))

/-- **`ReceivedPacket` on the byte array is the bit-level `Conn.receivedPacket`, and never leaves its arrays**: any datagram image, cursor and logical end,
any connection state, any contents of the nodes the allocator hands out -/
theorem lReceivedPacket_refines (e : Env) (c : Conn) (fb : Mem) (hfb : BytesOK fb) (hl : 1 ≤ fb.length) (nodes : Nat → Mem) (hn : NodesOK nodes)
    (b : Buf) (hb : RB b) : lReceivedPacket e c fb nodes b = some (c.receivedPacket e (rest b)) := by
  unfold lReceivedPacket
  obtain ⟨r, b1, h1, hrb1, hm1, hs1, hS1⟩ := lDecodePacketHeader_refines fb hfb hl b hb
  rw [h1]
  cases r with
  | error reason => rw [receivedPacket_error e c hS1]
  | ok h =>
    simp only
    by_cases hd : c.notify.deltaSeq h ≤ 0
    · rw [if_pos hd, receivedPacket_stale e c hS1 hd, rest_isEmpty b1 hrb1]
    · rw [if_neg hd, receivedPacket_accept e c hS1 (Int.not_le.mp hd), rest_length]
      obtain ⟨c', b2, s, h2, hrb2, _, _, hS2⟩ := lBunchLoop_refines nodes hn (b1.size - b1.num + 1)
        ({ c with inPacketId := c.inPacketId + c.notify.deltaSeq h }.notifyUpdate e h) b1 false hrb1
      rw [h2, hS2]
      simp only
      rw [rest_isEmpty b2 hrb2]

/-- **no datagram makes `ReceivedPacket` touch memory it does not own**, in any state -/
theorem received_packet_never_faults (e : Env) (c : Conn) (fb : Mem) (hfb : BytesOK fb) (hl : 1 ≤ fb.length) (nodes : Nat → Mem) (hn : NodesOK nodes)
    (b : Buf) (hb : RB b) : ∃ r, lReceivedPacket e c fb nodes b = some r :=
  ⟨_, lReceivedPacket_refines e c fb hfb hl nodes hn b hb⟩

/-- **C17 for the receive path**: what the allocator's nodes (and the uninitialised `FrameTimeByte`) contained does not influence the state `ReceivedPacket`
leaves, the callbacks it makes (they are part of the state's event log) or its return value -/
theorem received_packet_independent_of_node_contents (e : Env) (c : Conn) (fb fb' : Mem) (hfb : BytesOK fb) (hfb' : BytesOK fb') (hl : 1 ≤ fb.length)
    (hl' : 1 ≤ fb'.length) (nodes nodes' : Nat → Mem) (hn : NodesOK nodes) (hn' : NodesOK nodes') (b : Buf) (hb : RB b) :
    lReceivedPacket e c fb nodes b = lReceivedPacket e c fb' nodes' b := by
  rw [lReceivedPacket_refines e c fb hfb hl nodes hn b hb, lReceivedPacket_refines e c fb' hfb' hl' nodes' hn' b hb]

/-! non-vacuity: nodes full of `0xA5` are admissible -/
example : NodesOK (fun _ => List.replicate 1452 0xA5) := by
  intro k
  refine ⟨?_, by rw [List.length_replicate]; decide⟩
  intro x hx
  rw [List.mem_replicate] at hx
  omega

end Utcp.BB
