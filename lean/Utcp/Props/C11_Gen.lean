import Utcp.Props.C11
import Utcp.Lemmas.Size
/-!
# C11 — the header arithmetic of the model *is* the C functions'

`PackedHeader_Pack`, `ClAMP` and `MIN` of `utcp_packet_notify.c` are translated from the source on every run (`Gen/PureFns.lean`) and the
translation is validated against the compiled C; the theorems below show that the arithmetic the hand-written header codec uses is what
these generated definitions compute.  A change to a shift, a mask or a bound in the C source changes the generated definition and
breaks the corresponding theorem.
-/
namespace Utcp.Props.C11Gen
open Utcp Utcp.Gen Utcp.Props

/-- a C expression `(x * c) % 2^32` on a value that fits, read back as a natural number -/
theorem toNat_mul_emod (n c m : Nat) (h : n * c < m) : Int.toNat ((n : Int) * (c : Int) % (m : Int)) = n * c := by
  rw [← Int.natCast_mul, Int.emod_eq_of_lt (Int.natCast_nonneg _) (Int.ofNat_lt.2 h), Int.toNat_natCast]

/-- `PackedHeader_Pack` of three in-range fields is the header word (the model's `+` is the C `|`) -/
theorem PackedHeader_Pack_nat (s a w : Nat) (hs : s < 16384) (ha : a < 16384) (hw : w < 16) :
    PackedHeader_Pack s a w = ((hdrWord s a w : Nat) : Int) := by
  have e1 : Int.toNat ((s : Int) * 262144 % 4294967296) = s * 262144 := toNat_mul_emod s 262144 4294967296 ((Nat.mul_lt_mul_right (by decide)).2 hs)
  have e2 : Int.toNat ((a : Int) * 16 % 4294967296) = a * 16 := toNat_mul_emod a 16 4294967296 (Nat.lt_trans ((Nat.mul_lt_mul_right (by decide)).2 ha) (by decide))
  have e3 : Int.toNat ((w : Int) % 16) = w := by
    have := toNat_mul_emod w 1 16 (by rwa [Nat.mul_one]); rwa [Nat.mul_one, Int.natCast_one, Int.mul_one] at this
  -- only `rw` below: a `simp`/`unfold` step closed by `rfl` makes the kernel unfold `|||` on variables
  rw [PackedHeader_Pack, e1, e2, e3, Int.toNat_zero, Nat.zero_or, Int.toNat_natCast, Int.toNat_natCast, Nat.or_assoc,
    pack_or a w 16 4 rfl hw, pack_or s _ 262144 18 rfl (pack_lt a w 16 16384 ha hw), hdrWord_eq, Nat.add_assoc]

/-- **the packed header word of the model is the C function's** (`PackedHeader_Pack`, translated from `/repo` on every run): for a
well-formed header the 32-bit word `encodeNotifHeader` writes is what the generated definition computes -/
theorem packed_is_generated (h : NotifHeader) (wf : C11.WFHeader h) :
    ((h.seq.toNat % 16384) * 2 ^ 18 + (h.ackedSeq.toNat % 16384) * 16 + (h.words - 1) % 16 : Nat)
      = (PackedHeader_Pack h.seq h.ackedSeq ((h.words : Int) - 1)).toNat := by
  have hw := wf.words_pred_lt
  obtain ⟨⟨hs0, hs1⟩, ⟨ha0, ha1⟩, ⟨hw0, hw1⟩, _⟩ := wf
  have hs : h.seq.toNat < 16384 := (Int.toNat_lt hs0).2 hs1
  have ha : h.ackedSeq.toNat < 16384 := (Int.toNat_lt ha0).2 ha1
  have key := PackedHeader_Pack_nat _ _ _ hs ha hw
  rw [Int.toNat_of_nonneg hs0, Int.toNat_of_nonneg ha0, Int.ofNat_sub hw0] at key
  rw [Nat.mod_eq_of_lt hs, Nat.mod_eq_of_lt ha, Nat.mod_eq_of_lt hw, ← hdrWord_eq]
  exact (congrArg Int.toNat key).symm

/-- **the number of history words is the C clamp** (`ClAMP`, translated on every run) of the history length rounded up to words -/
theorem curWords_is_generated (n : Notify) :
    (n.curWords : Int) = ClAMP ((((if seq_num_greater_equal n.inAckSeq n.inAckSeqAck then (seq_num_diff n.inAckSeq n.inAckSeqAck).toNat else histLen) + 31) / 32 : Nat) : Int) 1 histWordsMax := by
  obtain ⟨w, hw, h⟩ := Size.curWords_eq n
  rw [h, ← hw, ClAMP, show histWordsMax = 8 from rfl]
  -- both clamps take the same branch
  have c1 : (w : Int) < 1 ↔ w < 1 := Int.ofNat_lt
  have c8 : (w : Int) < (8 : Nat) ↔ w < 8 := Int.ofNat_lt
  by_cases h1 : w < 1
  · rw [if_pos h1, if_pos (decide_eq_true (c1.2 h1))]; rfl
  · by_cases h2 : w < 8
    · rw [if_neg h1, if_pos h2, if_neg (by rw [decide_eq_true_eq, c1]; exact h1), if_pos (decide_eq_true (c8.2 h2))]
    · rw [if_neg h1, if_neg h2, if_neg (by rw [decide_eq_true_eq, c1]; exact h1), if_neg (by rw [decide_eq_true_eq, c8]; exact h2)]

/-- **the word count a reader uses is the C `MIN`** (translated on every run) of the array size and the transmitted count -/
theorem words_is_generated (k : Nat) : ((min histWordsMax (k + 1) : Nat) : Int) = MIN (histWordsMax : Int) ((k : Int) + 1) := by
  rw [MIN, show histWordsMax = 8 from rfl]
  by_cases h : 8 < k + 1
  · rw [Nat.min_eq_left (Nat.le_of_lt h), if_pos (decide_eq_true (by omega))]
  · rw [Nat.min_eq_right (Nat.le_of_not_lt h), if_neg (by rw [decide_eq_true_eq]; omega)]; rfl

end Utcp.Props.C11Gen
