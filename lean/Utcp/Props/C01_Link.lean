import Utcp.Lemmas.Link
/-!
# C01, across the link — reliable bunches arrive in the order they were sent

`Props/C01.lean` proves, for one endpoint fed arbitrary packets, that the reliable bunches of a channel are handed to the application
with strictly increasing sequence numbers.  `Props/C04.lean` proves that whatever is delivered looks like something the peer sent
(`sentOf` and `link_offered` below are not C04's but their versions over `C01.Op`, histories without `utcp_update`, from `Lemmas/Link.lean`).
Here the two ends are put together *with the sequence numbers*: the sender numbers the reliable bunches of a channel consecutively
(`sender_numbers_consecutively`), every datagram carries these numbers modulo 1024 (`Lemmas/Emission.lean`), the receiver's counter
for the channel never leaves the range of numbers the sender has used (`Lemmas/Window.lean`), so the absolute number the receiver
reconstructs *is* the sender's number — and therefore

**`delivered_in_sending_order_partial`**: on a channel, the reliable bunches handed to the receiving application, in delivery order,
are a sub-sequence of the reliable bunches the sender accepted on that channel, in sending order — same flags, close reason, name,
payload, and the sender's own sequence number; none twice — whatever the network drops, duplicates or reorders.

*Partial* with respect to the property: (1) the channel carries fewer than 1024 reliable bunches in the history (beyond that the proof
needs the window argument — at most 256 unacknowledged bunches, acknowledgements sound — which is not formalised here); (2) one incarnation
of the channel (histories without `utcp_update`, which performs the deferred teardown); (3) that *every* sent bunch is eventually
delivered (liveness) is not proved.
-/
namespace Utcp.Props.C01Link
open Utcp Utcp.Gen Utcp.Props

/-- **the sender numbers the reliable bunches of a channel consecutively**, starting after the initial value: after any history of
sends (accepted or refused), flushes and incoming packets, the numbers given on channel `ch`, newest first, are `n, n-1, …, init+1`
where `n` is the channel's counter -/
theorem sender_numbers_consecutively (ch : Nat) (ops : List (Env × C01.Op)) (i o : Int) :
    Desc (o % 1024) ((C01.run (({} : Conn).seqInit i o) ops).outRelOf ch) (relTags ch (sentOf (({} : Conn).seqInit i o) ops [])) :=
  (run_seq ch (o % 1024) ops _ [] ⟨rfl, by show (({} : Conn).seqInit i o).outRelOf ch = o % 1024; rfl⟩).desc

/-- **the receiver's number is the sender's number.**  `S` and `R` are the two ends, each reached from `utcp_sequence_init` by any
history of sends, flushes and incoming packets; every packet `R` is given is (the `ReceivedPacket` input of) a datagram `S` emitted —
in any order, any number of times, or never; both ends use the magic-header configuration `(mb, mg)`; the initial sequence numbers
mirror each other as the handshake guarantees (`C05.agree`); the channel has carried fewer than 1024 reliable bunches.  Then every
reliable bunch `R` hands to its application on the channel is — in everything the application sees — a bunch `S` accepted on that
channel, and the absolute sequence number `R` reconstructed for it is the number `S` gave it. -/
theorem numbers_agree_partial (mb mg : Nat) (hfit : mg < 2 ^ mb) (ch : Nat)
    (opsS : List (Env × C01.Op)) (hS : ∀ p ∈ opsS, p.1.magicBits = mb ∧ p.1.magic = mg) (iS oS : Int)
    (opsR : List (Env × C01.Op)) (hR : ∀ p ∈ opsR, p.1.magicBits = mb ∧ p.1.magic = mg) (iR oR : Int)
    (hmirror : oS % 1024 = iR % 1024)
    (hlink : C04.FromLink (C01.run (({} : Conn).seqInit iS oS) opsS) opsR)
    (hsmall : (accepted ch (sentOf (({} : Conn).seqInit iS oS) opsS [])).length < 1024)
    (g : List Bunch) (hg : Event.recv g ∈ (C01.run (({} : Conn).seqInit iR oR) opsR).log) (q : Bunch) (hq : q ∈ g)
    (hr : q.bReliable = true) (hc : q.chIndex = ch) :
    ∃ b ∈ accepted ch (sentOf (({} : Conn).seqInit iS oS) opsS []), seen q = seen b ∧ q.chSeq = b.chSeq := by
  generalize hsent : sentOf (({} : Conn).seqInit iS oS) opsS [] = sent at hsmall ⊢
  have hdesc := sender_numbers_consecutively ch opsS iS oS
  rw [hsent] at hdesc
  obtain ⟨htags, _, hlen⟩ := desc_facts _ _ _ hdesc
  generalize hhi : (C01.run (({} : Conn).seqInit iS oS) opsS).outRelOf ch = hi at htags hlen hdesc
  have hn : hi - oS % 1024 < 1024 := by rw [hlen, ← accepted_length]; exact Int.ofNat_lt.mpr hsmall
  -- the receiver is offered good bodies only; so it keeps order, delivers what was sent, and stays inside the sender's numbers
  have hoff := link_offered mb mg hfit opsS hS iS oS opsR hR hlink
  rw [hsent] at hoff
  obtain ⟨wfin, wadds⟩ := receiver_run_w sent ch (oS % 1024) hi (sentQ_fits ch (oS % 1024) hi sent htags hn) opsR _
    (fresh_winv _ ch (oS % 1024) hi iR oR hmirror (Int.le_of_sub_nonneg (hlen ▸ Int.natCast_nonneg _))) hoff
  have hord := C01.run_order opsR _ (C01.fresh_order iR oR)
  obtain ⟨b, hb, hseen, hres⟩ := C04.delivered_were_sent sent opsR iR oR hoff g hg q hq
  obtain ⟨hbt, hacc⟩ := mem_relTags_of_seen ch sent q b hb hseen hr hc
  have hbr := htags _ hbt
  generalize hRdef : C01.run (({} : Conn).seqInit iR oR) opsR = R at wfin wadds hord hg
  have hlow : oS % 1024 < q.chSeq := by
    rcases wadds.mem hg with hw | hg
    · exact hw g rfl q hq hr
    · cases hg
  -- the receiver's number is at most its counter, which is at most `hi`
  have hup : q.chSeq ≤ hi := by
    have hqs : q.chSeq ∈ relLog ch R.log := mem_relLog ch R.log g q hg hq hr hc
    cases hx : R.getChan ch with
    | none =>
      have := hord.absent ch (by unfold chanRecv; rw [hx]; rfl)
      rw [this] at hqs; cases hqs
    | some x =>
      have h1 := ((hord.chans ch _ (chanRecv_of_getChan hx)).dl.2) _ hqs
      have h2 := (wfin.chans ch x hx).high rfl
      exact Int.le_trans h1 h2
  exact ⟨b, hacc, hseen, eq_of_window (hres hr) hn hbr hlow (Int.le_trans hup (Int.le_add_one (Int.le_refl _)))⟩

/-- **in the order sent, at most once, intact — across the link** (same hypotheses): the reliable bunches `R` delivered on the channel,
in delivery order, are a sub-sequence of the reliable bunches `S` accepted on it, in sending order, compared on everything the
application sees *and* the channel sequence number. -/
theorem delivered_in_sending_order_partial (mb mg : Nat) (hfit : mg < 2 ^ mb) (ch : Nat)
    (opsS : List (Env × C01.Op)) (hS : ∀ p ∈ opsS, p.1.magicBits = mb ∧ p.1.magic = mg) (iS oS : Int)
    (opsR : List (Env × C01.Op)) (hR : ∀ p ∈ opsR, p.1.magicBits = mb ∧ p.1.magic = mg) (iR oR : Int)
    (hmirror : oS % 1024 = iR % 1024)
    (hlink : C04.FromLink (C01.run (({} : Conn).seqInit iS oS) opsS) opsR)
    (hsmall : (accepted ch (sentOf (({} : Conn).seqInit iS oS) opsS [])).length < 1024) :
    ((delivered ch (C01.run (({} : Conn).seqInit iR oR) opsR).log).map view).Sublist
      ((accepted ch (sentOf (({} : Conn).seqInit iS oS) opsS [])).map view) := by
  have hexact : ∀ q ∈ delivered ch (C01.run (({} : Conn).seqInit iR oR) opsR).log,
      view q ∈ (accepted ch (sentOf (({} : Conn).seqInit iS oS) opsS [])).map view := by
    intro q hq
    obtain ⟨g, hg, hqg, hr, hc⟩ := delivered_mem ch _ q hq
    obtain ⟨b, hb, hseen, heq⟩ := numbers_agree_partial mb mg hfit ch opsS hS iS oS opsR hR iR oR hmirror hlink hsmall g hg q hqg hr hc
    exact List.mem_map.mpr ⟨b, hb, (view_eq q b hseen heq).symm⟩
  have hord := C01.run_order opsR _ (C01.fresh_order iR oR)
  obtain ⟨_, hdec, _⟩ := desc_facts _ _ _ (sender_numbers_consecutively ch opsS iS oS)
  -- both lists are strictly increasing in the sequence number
  have hD : (((delivered ch (C01.run (({} : Conn).seqInit iR oR) opsR).log).map view).map (·.chSeq)).Pairwise (· < ·) := by
    rw [map_view_seq, delivered_seqs]; exact hord.increasing ch
  have hL : (((accepted ch (sentOf (({} : Conn).seqInit iS oS) opsS [])).map view).map (·.chSeq)).Pairwise (· < ·) :=
    accepted_increasing ch _ hdec
  refine sublist_of_increasing (·.chSeq) _ _ hL hD ?_
  intro d hd
  obtain ⟨q, hq, rfl⟩ := List.mem_map.mp hd
  exact hexact q hq

theorem delivered_count_le (mb mg : Nat) (hfit : mg < 2 ^ mb) (ch : Nat)
    (opsS : List (Env × C01.Op)) (hS : ∀ p ∈ opsS, p.1.magicBits = mb ∧ p.1.magic = mg) (iS oS : Int)
    (opsR : List (Env × C01.Op)) (hR : ∀ p ∈ opsR, p.1.magicBits = mb ∧ p.1.magic = mg) (iR oR : Int)
    (hmirror : oS % 1024 = iR % 1024)
    (hlink : C04.FromLink (C01.run (({} : Conn).seqInit iS oS) opsS) opsR)
    (hsmall : (accepted ch (sentOf (({} : Conn).seqInit iS oS) opsS [])).length < 1024) :
    (delivered ch (C01.run (({} : Conn).seqInit iR oR) opsR).log).length ≤ (accepted ch (sentOf (({} : Conn).seqInit iS oS) opsS [])).length := by
  have := (delivered_in_sending_order_partial mb mg hfit ch opsS hS iS oS opsR hR iR oR hmirror hlink hsmall).length_le
  rw [List.length_map, List.length_map] at this
  exact this

/-! non-vacuity: a concrete sender history numbers its two reliable bunches 8 and 9 (initial value 7) -/
example : relTags 1 (sentOf (({} : Conn).seqInit 3 7)
    [({}, .send { chIndex := 1, bOpen := true, bReliable := true }), ({}, .flush), ({}, .send { chIndex := 1, bReliable := true })] []) = [9, 8] := by
  decide

end Utcp.Props.C01Link
