import Utcp.Lemmas.GroupInv
import Utcp.Props.C01
/-!
# C03 — partial bunches are reassembled all-or-nothing and never mixed

* **one fragment, any state** (`Lemmas/Partial.lean`, restated here): the reassembly list of a channel always has the shape
  "initial, then non-initial non-final fragments of the same reliability with matching sequence"; a group is handed over only
  when its final fragment has been merged, it is then the *whole* list; a refused fragment never extends a group.
* **every history** (`Lemmas/GroupInv.lean`): whatever bit strings `ReceivedPacket` is fed, interleaved with any sends and
  flushes, *every* receive callback the endpoint ever makes carries either one non-partial bunch or one complete group: first
  fragment initial, last fragment final, nothing in between initial or final, all fragments partial, of one reliability, with
  matching sequence numbers, at most 256 of them (`every_callback_is_a_group`, `group_facts`).  Together with C01's
  `delivered_once` (no reliable sequence number is delivered twice) a reliable group is delivered at most once.
Not proved in Lean: that a *reliable* group is eventually delivered and that an unreliable group whose packets were all accepted
is delivered (liveness across the two endpoints: monitors `C03/lost`, `C03/ulost` on the real code).
-/
namespace Utcp.Props.C03
open Utcp Utcp.Gen Utcp.Partial

theorem group_limit : maxGroup = 256 ∧ Gen.EXTENT_HandleBunch = Gen.MaxSequenceHistoryLength := Partial.group_limit

/-- **the reassembly list keeps its shape** whatever fragment arrives (`merge_partial_data`) -/
theorem merge_shape (c : Conn) (x : Channel) (b : Bunch) (hb : b.bPartial = true) (hs : Shape x.inPartial) :
    Shape (mergePartial c x b).2.1.inPartial := Partial.merge_shape c x b hb hs

/-- a group is reported available only when a non-initial *final* fragment has just been merged, and then the list
is exactly the old (non-empty) list followed by it -/
theorem available_iff (c : Conn) (x : Channel) (b : Bunch) (h : (mergePartial c x b).2.2.1 = .available) :
    b.bPartialInitial = false ∧ b.bPartialFinal = true ∧ (mergePartial c x b).2.1.inPartial = x.inPartial ++ [b] ∧ x.inPartial ≠ [] :=
  Partial.available_iff c x b h

/-- a refused or fatal merge never extends the list: it is left alone or cleared -/
theorem refused_no_growth (c : Conn) (x : Channel) (b : Bunch) (h : (mergePartial c x b).2.2.1 = .failed ∨ (mergePartial c x b).2.2.1 = .fatal) :
    (mergePartial c x b).2.1.inPartial = x.inPartial ∨ (mergePartial c x b).2.1.inPartial = [] := Partial.refused_no_growth c x b h

/-- fragments of different reliability are never combined, reliable fragments only with the next channel sequence,
unreliable ones only from the same or the next packet -/
theorem merged_follows (c : Conn) (x : Channel) (b : Bunch) (last : Bunch) (hl : x.inPartial.getLast? = some last)
    (hi : b.bPartialInitial = false) (hm : (mergePartial c x b).2.1.inPartial = x.inPartial ++ [b]) : Follows last b :=
  Partial.merged_follows c x b last hl hi hm

/-- of a non-empty list with the shape, the first fragment is initial and every fragment is partial (what else a group is, `Shape` says itself) -/
theorem group_of_shape (g : List Bunch) (hs : Shape g) (hne : g ≠ []) (hfin : (g.getLast?.map (·.bPartialFinal)) = some true) :
    (g.head?.map (·.bPartialInitial)) = some true ∧ (∀ b ∈ g, b.bPartial = true) := Partial.group_of_shape g hs hne hfin

/-- every history (the operations of `C01.Op`: send any bunch, flush, `ReceivedPacket` on any bits) keeps the shape invariant and
only logs callbacks that carry a single bunch or a complete group -/
theorem run_groups (ops : List (Env × C01.Op)) : ∀ c : Conn, GInv c → GInv (C01.run c ops) ∧ Adds GroupP c (C01.run c ops) :=
  fun c => C01.side_run ginv_side ops c (fun _ _ bits _ => loopOK_any bits)

/-- **all-or-nothing, never mixed — for every callback of every history**: a receive callback logged during the history carries
one non-partial bunch, or one complete group of at most 256 fragments with the group shape -/
theorem every_callback_is_a_group (ops : List (Env × C01.Op)) (c : Conn) (h : GInv c) (g : List Bunch)
    (hg : Event.recv g ∈ (C01.run c ops).log) : Event.recv g ∈ c.log ∨ GroupOK g :=
  ((run_groups ops c h).2.mem hg).symm.imp_right fun hw => hw g rfl

/-- what `GroupOK` says in the terms of the property: between 1 and 256 elements; either a single non-partial bunch, or first initial,
last final, every element partial, and neighbours follow each other (same reliability, matching sequence) -/
theorem group_facts (g : List Bunch) (h : GroupOK g) :
    1 ≤ g.length ∧ g.length ≤ 256 ∧
    ((∃ b, g = [b] ∧ b.bPartial = false) ∨
     ((g.head?.map (·.bPartialInitial)) = some true ∧ (g.getLast?.map (·.bPartialFinal)) = some true ∧ (∀ b ∈ g, b.bPartial = true) ∧ Shape g)) := by
  rcases h with ⟨b, rfl, hb⟩ | ⟨hs, hne, hfin, hlen⟩
  · exact ⟨by simp, by simp, Or.inl ⟨b, rfl, hb⟩⟩
  · obtain ⟨h1, h2⟩ := Partial.group_of_shape g hs hne hfin
    refine ⟨?_, hlen, Or.inr ⟨h1, hfin, h2, hs⟩⟩
    cases g with
    | nil => exact absurd rfl hne
    | cons a t => simp

theorem fresh_groups (i o : Int) : GInv (({} : Conn).seqInit i o) :=
  fun ch x hx => (no_chan_of_chans_nil rfl ch x hx).elim

example : Shape [{ bPartial := true, bPartialInitial := true, bReliable := true, chSeq := 7 },
                 { bPartial := true, bReliable := true, chSeq := 8 }] := by
  simp [Shape, Shape.Tail, Follows]
example : GroupOK [{ bPartial := true, bPartialInitial := true, bReliable := true, chSeq := 7 },
                   { bPartial := true, bPartialFinal := true, bReliable := true, chSeq := 8 }] := by
  right; simp [Shape, Shape.Tail, Follows]

end Utcp.Props.C03
