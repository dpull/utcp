import Utcp.Lemmas.Keeps
import Utcp.Lemmas.Notify
import Utcp.Lemmas.RecvKeeps
import Utcp.Props.C13
import Utcp.Lemmas.Pack
import Utcp.Lemmas.Mirror
import Utcp.Lemmas.Packet
/-!
# C02 — delivery status: one verdict per packet, in order, ACK only if accepted

Local part (one endpoint, *arbitrary* incoming headers — hostile ones included): the delivery statuses an
endpoint reports carry consecutive packet ids, without gap or repetition (`notifyUpdate_statuses`), and the bookkeeping invariant that
makes this true (`Inv`: `LastNotifiedPacketId ≡ OutAckSeq (mod 2^14)`) is preserved by every accepted header.

Closed loop (two endpoints): the receiver's 256-bit register means what the sender takes it to mean.  With 14-bit ids
(`receivedPacket_rinv`, `ack_sound`): **ACK ⇒ the peer accepted that packet and refused none of its bunches.**  With the receiver's
unbounded packet-id counter as ghost (`RConn`, `receivedPacket_rconn`, `status_exact`): ACK **iff**, the "if" within the 256-bit
register (the property's "no more than 256 packets awaiting a verdict").

*Not* proved in Lean: that the sender's own full id `p` *equals* the receiver's `q` (only
`p ≡ q (mod 2^14)`; equality needs the in-flight window invariant across both endpoints and the network), and the latency
bound; these are checked by the C02 monitor on the real code (`acc` lines of the trace against every `status` line).
-/
namespace Utcp.Props.C02
open Utcp Utcp.Gen

/-- the delivery statuses in a log, newest first -/
def statuses (log : List Event) : List (Int × Bool) :=
  (log.filter isStatus).map fun | .status p a => (p, a) | _ => (0, false)

theorem statuses_cons_status (p : Int) (a : Bool) (log : List Event) : statuses (.status p a :: log) = (p, a) :: statuses log := by
  simp [statuses, List.filter_cons, isStatus]

theorem statuses_of_adds {P : Event → Prop} {c c' : Conn} (h : Adds P c c') (hp : ∀ ev, P ev → isStatus ev = false) :
    statuses c'.log = statuses c.log := by
  unfold statuses; rw [h.filter_eq isStatus hp]

theorem isOut_not_status (ev : Event) (h : isOut ev) : isStatus ev = false := by cases ev <;> simp_all [isOut, isStatus]
theorem isFreeNode_not_status (ev : Event) (h : isFreeNode ev) : isStatus ev = false := by
  cases ev with
  | free k => rfl
  | _ => first | rfl | simp_all [isFreeNode]

theorem handle_step (e : Env) (c : Conn) (v : Int × Bool) :
    (c.handleNotification e v).lastNotified = c.lastNotified + 1 ∧
    (v.1 = (c.lastNotified + 1) % 16384 → statuses (c.handleNotification e v).log = (c.lastNotified + 1, v.2) :: statuses c.log) := by
  rw [handleNotification_eq]
  by_cases hm : ((c.lastNotified + 1) % 16384 != v.1) = true
  · rw [if_pos hm]
    exact ⟨rfl, fun h => by simp [h] at hm⟩
  · rw [if_neg hm]
    by_cases hv : v.2 = true
    · rw [if_pos hv]
      have hk := onAckChans_keeps (c.lastNotified + 1) (c.chans.map (·.1)) { c with lastNotified := c.lastNotified + 1, outAckPacketId := c.lastNotified + 1 }
      have ha := onAckChans_adds (c.lastNotified + 1) (c.chans.map (·.1)) { c with lastNotified := c.lastNotified + 1, outAckPacketId := c.lastNotified + 1 }
      refine ⟨hk.lastNotified, fun _ => ?_⟩
      rw [emit_log, statuses_cons_status, statuses_of_adds ha isFreeNode_not_status, hv]
    · rw [if_neg hv]
      have hk := onNakChans_keeps e (c.lastNotified + 1) (c.chans.map (·.1)) { c with lastNotified := c.lastNotified + 1 }
      have ha := onNakChans_adds e (c.lastNotified + 1) (c.chans.map (·.1)) { c with lastNotified := c.lastNotified + 1 }
      refine ⟨hk.lastNotified, fun _ => ?_⟩
      rw [emit_log, statuses_cons_status, statuses_of_adds ha isOut_not_status, Bool.eq_false_iff.mpr hv]

/-- ids `ln+1, ln+2, …` paired with the verdict bits, newest first -/
def expected (ln : Int) : List (Int × Bool) → List (Int × Bool)
  | [] => []
  | v :: rest => expected (ln + 1) rest ++ [(ln + 1, v.2)]

theorem expected_length (ln : Int) (vs : List (Int × Bool)) : (expected ln vs).length = vs.length := by
  induction vs generalizing ln with
  | nil => rfl
  | cons v rest ih => simp [expected, ih]

theorem expected_ids (vs : List (Int × Bool)) : ∀ (ln : Int) (k : Nat) (hk : k < (expected ln vs).reverse.length),
    ((expected ln vs).reverse)[k].1 = ln + 1 + (k : Int) := by
  induction vs with
  | nil => intro ln k hk; simp [expected] at hk
  | cons v rest ih =>
    intro ln k hk
    have hr : (expected ln (v :: rest)).reverse = (ln + 1, v.2) :: (expected (ln + 1) rest).reverse := by simp [expected]
    simp only [hr] at hk ⊢
    cases k with
    | zero => simp
    | succ k =>
      simp only [List.getElem_cons_succ]
      rw [ih (ln + 1) k (by simpa using hk)]
      push_cast; omega

theorem handle_fold (e : Env) (vs : List (Int × Bool)) : ∀ (c : Conn),
    (∀ j (hj : j < vs.length), vs[j].1 = (c.lastNotified + 1 + (j : Int)) % 16384) →
    statuses (vs.foldl (Conn.handleNotification e) c).log = expected c.lastNotified vs ++ statuses c.log ∧
    (vs.foldl (Conn.handleNotification e) c).lastNotified = c.lastNotified + vs.length := by
  induction vs with
  | nil => intro c _; simp [expected]
  | cons v rest ih =>
    intro c h
    obtain ⟨h1, h2⟩ := handle_step e c v
    have hv0 : v.1 = (c.lastNotified + 1) % 16384 := by
      have := h 0 (by simp); simpa using this
    obtain ⟨i1, i2⟩ := ih (c.handleNotification e v) (by
      intro j hj
      have := h (j + 1) (Nat.succ_lt_succ hj)
      simp only [List.getElem_cons_succ] at this
      rw [this, h1]
      congr 1
      omega)
    simp only [List.foldl_cons]
    refine ⟨?_, ?_⟩
    · rw [i1, h2 hv0, h1]
      simp [expected]
    · rw [i2, h1, List.length_cons]; omega

def Inv (c : Conn) : Prop := c.notify.outAckSeq = c.lastNotified % 16384

theorem Inv.range {c : Conn} (h : Inv c) : 0 ≤ c.notify.outAckSeq ∧ c.notify.outAckSeq < 16384 := by
  rw [h]; exact C13.mod_seq14 _

/-- `utcp_sequence_init` establishes the invariant -/
theorem seqInit_inv (c : Conn) (i o : Int) : Inv (c.seqInit i o) := by
  unfold Inv; rw [seqInit_notify, init_outAckSeq]; rfl

theorem verdicts_ids {outAck ln : Int} (h : NotifHeader) (n : Nat) (hinv : outAck = ln % 16384) :
    ∀ j (hj : j < (verdicts outAck h n).length), (verdicts outAck h n)[j].1 = (ln + 1 + (j : Int)) % 16384 := by
  intro j hj
  have hg := verdicts_getElem? outAck h n j (by rwa [verdicts_length] at hj)
  rw [List.getElem?_eq_getElem hj, Option.some.injEq] at hg
  rw [hg]
  show seq_num_inc outAck _ = _
  rw [C13.inc_eq, hinv, Int.emod_add_emod]
  congr 1
  push_cast
  omega

/-- the verdicts `packet_notify_update` derives from header `h` in state `c` -/
def ackVerdicts (c : Conn) (h : NotifHeader) : List (Int × Bool) :=
  if seq_num_greater_than h.ackedSeq c.notify.outAckSeq then verdicts c.notify.outAckSeq h (seq_num_diff h.ackedSeq c.notify.outAckSeq).toNat else []

theorem ackVerdicts_pos {c : Conn} {h : NotifHeader} (hgt : seq_num_greater_than h.ackedSeq c.notify.outAckSeq = true) :
    ackVerdicts c h = verdicts c.notify.outAckSeq h (seq_num_diff h.ackedSeq c.notify.outAckSeq).toNat := if_pos hgt

theorem ackVerdicts_neg {c : Conn} {h : NotifHeader} (hgt : ¬ seq_num_greater_than h.ackedSeq c.notify.outAckSeq = true) :
    ackVerdicts c h = [] := if_neg hgt

theorem notifyUpdate_fold (e : Env) (c : Conn) (h : NotifHeader) (hinv : Inv c) :
    statuses (c.notifyUpdate e h).log = expected c.lastNotified (ackVerdicts c h) ++ statuses c.log ∧
    (c.notifyUpdate e h).lastNotified = c.lastNotified + (ackVerdicts c h).length ∧
    (c.notifyUpdate e h).notify.outAckSeq = if seq_num_greater_than h.ackedSeq c.notify.outAckSeq then h.ackedSeq else c.notify.outAckSeq := by
  by_cases hgt : seq_num_greater_than h.ackedSeq c.notify.outAckSeq = true
  · rw [notifyUpdate_acked e c h hgt, ackVerdicts_pos hgt, if_pos hgt]
    obtain ⟨f1, f2⟩ := handle_fold e (verdicts c.notify.outAckSeq h (seq_num_diff h.ackedSeq c.notify.outAckSeq).toNat)
      { c with notify := c.notify.updateInAckSeqAck (seq_num_diff h.ackedSeq c.notify.outAckSeq).toNat h.ackedSeq } (verdicts_ids h _ hinv)
    exact ⟨f1, f2, rfl⟩
  · rw [notifyUpdate_nothing_acked e c h (Bool.eq_false_iff.mpr hgt), ackVerdicts_neg hgt, if_neg hgt]
    exact ⟨rfl, (Int.add_zero _).symm, rfl⟩

/-- **status order**: processing an accepted header reports the packets `ln+1 … ln+k` — consecutive ids, oldest
first, no gap, no repetition — where `k` is the number of newly covered packets, and re-establishes the invariant -/
theorem notifyUpdate_statuses (e : Env) (c : Conn) (h : NotifHeader) (hinv : Inv c) (hacked : 0 ≤ h.ackedSeq ∧ h.ackedSeq < 16384) :
    ∃ vs : List (Int × Bool), statuses (c.notifyUpdate e h).log = expected c.lastNotified vs ++ statuses c.log ∧
      (c.notifyUpdate e h).lastNotified = c.lastNotified + vs.length ∧ Inv (c.notifyUpdate e h) := by
  obtain ⟨f1, f2, f3⟩ := notifyUpdate_fold e c h hinv
  refine ⟨ackVerdicts c h, f1, f2, ?_⟩
  unfold Inv at hinv ⊢
  rw [f2, f3]
  by_cases hgt : seq_num_greater_than h.ackedSeq c.notify.outAckSeq = true
  · -- the counter has advanced by the circular distance from `OutAckSeq` to the acknowledged sequence, which is the new `OutAckSeq`
    have ho := Inv.range hinv
    have hd := C13.diff_range h.ackedSeq c.notify.outAckSeq
    have hpos := (C13.gt_iff_diff_pos h.ackedSeq c.notify.outAckSeq hacked ho).mp hgt
    rw [if_pos hgt, ackVerdicts_pos hgt, verdicts_length, Int.toNat_of_nonneg (Int.le_of_lt hpos)]
    -- `lastNotified + diff ≡ OutAckSeq + (acked - OutAckSeq) = acked` modulo 2^14, and `acked` is in range
    have hcong : seq_num_diff h.ackedSeq c.notify.outAckSeq % 16384 = (h.ackedSeq - c.notify.outAckSeq) % 16384 :=
      Int.emod_eq_emod_iff_emod_sub_eq_zero.mpr hd.2.2
    rw [← Int.emod_add_emod, ← hinv, ← Int.add_emod_emod, hcong, Int.add_emod_emod, Int.add_comm, Int.sub_add_cancel,
      Int.emod_eq_of_lt hacked.1 hacked.2]
  · rw [if_neg hgt, ackVerdicts_neg hgt, hinv]
    simp

/-! ## closed loop: ACK ⇒ the peer accepted the packet -/

theorem mem_expected (vs : List (Int × Bool)) : ∀ (ln : Int) (p : Int × Bool), p ∈ expected ln vs →
    ∃ j, ∃ hj : j < vs.length, p = (ln + 1 + (j : Int), (vs[j]).2) := by
  induction vs with
  | nil => intro ln p hp; simp [expected] at hp
  | cons v rest ih =>
    intro ln p hp
    simp only [expected, List.mem_append, List.mem_singleton] at hp
    rcases hp with hp | rfl
    · obtain ⟨j, hj, rfl⟩ := ih (ln + 1) p hp
      refine ⟨j + 1, by simp; omega, ?_⟩
      simp only [List.getElem_cons_succ]
      rw [Prod.ext_iff]; simp only; refine ⟨by push_cast; omega, trivial⟩
    · exact ⟨0, by simp, by simp⟩

theorem mem_expected_ackVerdicts (c : Conn) (h : NotifHeader) (p : Int × Bool) (hp : p ∈ expected c.lastNotified (ackVerdicts c h)) :
    ∃ j, ∃ hj : j < (verdicts c.notify.outAckSeq h (seq_num_diff h.ackedSeq c.notify.outAckSeq).toNat).length,
      p = (c.lastNotified + 1 + (j : Int), ((verdicts c.notify.outAckSeq h (seq_num_diff h.ackedSeq c.notify.outAckSeq).toNat)[j]).2) := by
  by_cases hgt : seq_num_greater_than h.ackedSeq c.notify.outAckSeq = true
  · rw [ackVerdicts_pos hgt] at hp
    exact mem_expected _ _ _ hp
  · rw [ackVerdicts_neg hgt] at hp
    cases hp

/-- **ACK soundness.**  `R` is the receiver's packet-notify state at the moment it writes a header with any number `w` of
history words; `c` is the sender.  Every ACK status the sender derives from that header is for a packet id that — modulo
2^14 — the receiver was asked to acknowledge (`calls`), and by `receivedPacket_rinv` such requests are only made for
packets the receiver accepted and none of whose bunches it refused. -/
theorem ack_sound (c : Conn) (R : Notify) (tg calls : List (Int × Bool)) (w : Nat) (hR : RInv R tg calls) (hinv : Inv c) :
    ∀ p, p ∈ expected c.lastNotified (ackVerdicts c (R.headerWith w)) → p.2 = true → (p.1 % 16384, true) ∈ calls := by
  intro p hp ht
  obtain ⟨j, hj, rfl⟩ := mem_expected_ackVerdicts c _ p hp
  have hs := verdicts_sound R tg calls w c.notify.outAckSeq hR _ (List.getElem_mem hj) ht
  have hid := verdicts_ids (R.headerWith w) _ hinv j hj
  have : (verdicts c.notify.outAckSeq (R.headerWith w) (seq_num_diff (R.headerWith w).ackedSeq c.notify.outAckSeq).toNat)[j]
      = ((c.lastNotified + 1 + (j : Int)) % 16384, true) := by
    rw [Prod.ext_iff]; exact ⟨hid, ht⟩
  rwa [this] at hs

theorem ack_status_sound (e : Env) (c : Conn) (R : Notify) (tg calls : List (Int × Bool)) (w : Nat) (hR : RInv R tg calls) (hinv : Inv c) :
    ∃ news, statuses (c.notifyUpdate e (R.headerWith w)).log = news ++ statuses c.log ∧
      ∀ p ∈ news, p.2 = true → (p.1 % 16384, true) ∈ calls :=
  ⟨expected c.lastNotified (ackVerdicts c (R.headerWith w)), (notifyUpdate_fold e c _ hinv).1, ack_sound c R tg calls w hR hinv⟩

theorem reg_nclosed (e : Env) : NClosed e (fun c c' => c'.notify.hist = c.notify.hist ∧ c'.notify.inAckSeq = c.notify.inAckSeq ∧ c'.inPacketId = c.inPacketId) where
  refl _ := ⟨rfl, rfl, rfl⟩
  trans h1 h2 := ⟨h2.1.trans h1.1, h2.2.1.trans h1.2.1, h2.2.2.trans h1.2.2⟩
  onAck c pid chs := have h := onAckChans_keeps pid chs c; ⟨h.hist, h.inAckSeq, h.inPacketId⟩
  onNak c pid chs := have h := onNakChans_keeps e pid chs c; ⟨h.hist, h.inAckSeq, h.inPacketId⟩
  notified _ := ⟨rfl, rfl, rfl⟩
  acked _ := ⟨rfl, rfl, rfl⟩
  status _ _ _ := ⟨rfl, rfl, rfl⟩
  notify _ _ _ _ _ := ⟨rfl, rfl, rfl⟩

theorem notifyUpdate_reg (e : Env) (c : Conn) (h : NotifHeader) :
    (c.notifyUpdate e h).notify.hist = c.notify.hist ∧ (c.notifyUpdate e h).notify.inAckSeq = c.notify.inAckSeq ∧
    (c.notifyUpdate e h).inPacketId = c.inPacketId := (reg_nclosed e).notifyUpdate c h

/-- nothing the register's meaning depends on (the fields `RInv` and `RConn` read) has changed -/
structure RegSame (c c' : Conn) : Prop where
  hist : c'.notify.hist = c.notify.hist
  inAckSeq : c'.notify.inAckSeq = c.notify.inAckSeq
  inSeq : c'.notify.inSeq = c.notify.inSeq
  inPacketId : c'.inPacketId = c.inPacketId

theorem RegSame.refl (c : Conn) : RegSame c c := ⟨rfl, rfl, rfl, rfl⟩
theorem RegSame.trans {a b c : Conn} (h1 : RegSame a b) (h2 : RegSame b c) : RegSame a c :=
  ⟨h2.hist.trans h1.hist, h2.inAckSeq.trans h1.inAckSeq, h2.inSeq.trans h1.inSeq, h2.inPacketId.trans h1.inPacketId⟩
theorem RegSame.of_keeps {c c' : Conn} (h : Keeps c c') : RegSame c c' := ⟨h.hist, h.inAckSeq, h.inSeq, h.inPacketId⟩
theorem RegSame.of_sameN {c c' : Conn} (h : SameN c c') : RegSame c c' := ⟨by rw [h.notify], by rw [h.notify], by rw [h.notify], h.inPacketId⟩

/-- **the receive path, as far as the register is concerned**: a datagram body either changes nothing the register's meaning depends
on, or its header `hd` is accepted — the counter advances by `deltaSeq hd > 0`, the sender-side bookkeeping and the bunches are
processed (state `c3`: register as before, `inSeq` now `hd.seq`) — and the last thing that happens is one `packet_notify_ack_seq`
for the new counter value, with verdict "no bunch was refused" -/
theorem receivedPacket_register (e : Env) (c : Conn) (bits : Bits) :
    RegSame c (c.receivedPacket e bits).1 ∨
    ∃ (hd : NotifHeader) (rest : Bits) (c3 : Conn) (skip : Bool), decodePacketHeader bits = .ok (hd, rest) ∧ 0 < c.notify.deltaSeq hd ∧
      c3.notify.hist = c.notify.hist ∧ c3.notify.inAckSeq = c.notify.inAckSeq ∧ c3.notify.inSeq = hd.seq ∧
      c3.inPacketId = c.inPacketId + c.notify.deltaSeq hd ∧
      (c.receivedPacket e bits).1 = { c3 with notify := c3.notify.ackSeq c3.inPacketId (!skip) } := by
  rcases receivedPacket_cases e c bits with ⟨r, _, h⟩ | ⟨_, _, _, _, h⟩ | ⟨hd, rest, hdec, hpos, _⟩
  · rw [h]; exact .inl (.of_sameN (markClose_sameN _ _))
  · rw [h]; exact .inl (.refl c)
  · right
    obtain ⟨n1, n2, n3⟩ := notifyUpdate_reg e { c with inPacketId := c.inPacketId + c.notify.deltaSeq hd } hd
    have n4 := notifyUpdate_inSeq e { c with inPacketId := c.inPacketId + c.notify.deltaSeq hd } hd
    obtain ⟨c3, skip, hs, heq⟩ := receivedPacket_accept_loop bunchLoop_sameN e c bits hd rest hdec hpos
    exact ⟨hd, rest, c3, skip, hdec, hpos, by rw [hs.notify]; exact n1, by rw [hs.notify]; exact n2, by rw [hs.notify]; exact n4,
      by rw [hs.inPacketId]; exact n3, heq⟩

/-- **the only way the receive path writes the register**: a datagram body either leaves the register as it was (unparsable
header, or a stale / duplicate / out-of-window sequence), or it is accepted — the packet-id counter advances to the
packet's id — and exactly one request is recorded: `(that id mod 2^14, no bunch of the packet was refused)`. -/
theorem receivedPacket_rinv (e : Env) (c : Conn) (bits : Bits) (tg calls : List (Int × Bool)) (h : RInv c.notify tg calls) :
    (RInv (c.receivedPacket e bits).1.notify tg calls ∧ (c.receivedPacket e bits).1.inPacketId = c.inPacketId) ∨
    (c.inPacketId < (c.receivedPacket e bits).1.inPacketId ∧
      ∃ tg' refused, RInv (c.receivedPacket e bits).1.notify tg' (((c.receivedPacket e bits).1.inPacketId % 16384, !refused) :: calls)) := by
  rcases receivedPacket_register e c bits with hs | ⟨hd, rest, c3, skip, _, hpos, h1, h2, _, hid, heq⟩
  · exact .inl ⟨h.congr hs.hist hs.inAckSeq, hs.inPacketId⟩
  · rw [heq]
    obtain ⟨tg', ht⟩ := ackSeq_rinv c3.notify tg calls c3.inPacketId (!skip) (h.congr h1 h2)
    exact .inr ⟨by show c.inPacketId < c3.inPacketId; omega, tg', skip, ht⟩

theorem seqInit_rinv (c : Conn) (i o : Int) : RInv (c.seqInit i o).notify [] [] := by
  rw [seqInit_notify]
  exact init_rinv _ _ _ (C13.mod_seq14 _)

/-- everything the sending machinery does (flush, header refresh, retransmission, release) keeps the register's meaning -/
theorem keeps_rinv {c c' : Conn} {tg calls : List (Int × Bool)} (hk : Keeps c c') (h : RInv c.notify tg calls) : RInv c'.notify tg calls :=
  h.congr hk.hist hk.inAckSeq

/-! non-vacuity -/
example : Inv ((({} : Conn).seqInit 16383 0)) := seqInit_inv _ _ _
example : expected 41 [(0, true), (0, false), (0, true)] = [(44, true), (43, false), (42, true)] := by decide
example : RInv ((({} : Conn).seqInit 5 16383)).notify [] [] := seqInit_rinv _ _ _

/-! ## the same, with unbounded packet ids: ACK **iff** accepted and not refused -/

theorem decode_seq_range (bits : Bits) (hd : NotifHeader) (rest : Bits) (h : decodePacketHeader bits = .ok (hd, rest)) :
    0 ≤ hd.seq ∧ hd.seq < 16384 := by
  obtain ⟨packed, h1, _⟩ := decodePacketHeader_cases h
  omega

theorem decode_acked_range (bits : Bits) (hd : NotifHeader) (rest : Bits) (h : decodePacketHeader bits = .ok (hd, rest)) :
    0 ≤ hd.ackedSeq ∧ hd.ackedSeq < 16384 := by
  obtain ⟨packed, _, h2, _⟩ := decodePacketHeader_cases h
  omega

/-- receiver-side invariant at the connection level: the register describes the packets up to the packet-id counter -/
structure RConn (c : Conn) (tg calls : List (Int × Bool)) : Prop where
  reg : RInvF c.notify tg calls c.inPacketId
  inSeq : 0 ≤ c.notify.inSeq ∧ c.notify.inSeq < 16384

theorem RegSame.rconn {c c' : Conn} {tg calls : List (Int × Bool)} (hs : RegSame c c') (h : RConn c tg calls) : RConn c' tg calls :=
  ⟨by rw [hs.inPacketId]; exact h.reg.congr hs.hist hs.inAckSeq, by rw [hs.inSeq]; exact h.inSeq⟩

/-- **the receive path, with full packet ids.**  A datagram body either changes nothing the register depends on, or the
packet is accepted: the counter grows to the packet's id `q`, exactly one request `(q, no bunch refused)` is
added — for an id larger than every id a request was ever made for — and the register describes the packets up to `q`. -/
theorem receivedPacket_rconn (e : Env) (c : Conn) (bits : Bits) (tg calls : List (Int × Bool)) (h : RConn c tg calls) :
    (RConn (c.receivedPacket e bits).1 tg calls ∧ (c.receivedPacket e bits).1.inPacketId = c.inPacketId) ∨
    (c.inPacketId < (c.receivedPacket e bits).1.inPacketId ∧
      ∃ tg' refused, RConn (c.receivedPacket e bits).1 tg' (((c.receivedPacket e bits).1.inPacketId, !refused) :: calls)) := by
  rcases receivedPacket_register e c bits with hs | ⟨hd, rest, c3, skip, hdec, hpos, h1, h2, h3, hid, heq⟩
  · exact .inl ⟨hs.rconn h, hs.inPacketId⟩
  · have hseq := decode_seq_range bits hd rest hdec
    -- the counter advances by the circular distance of the header sequence, which is below 2^13
    have hdl : c.notify.deltaSeq hd < 8192 := by
      rw [Notify.deltaSeq_eq]; unfold Notify.deltaSeqSpec
      split
      · exact (C13.diff_range hd.seq c.notify.inSeq).2.1
      · decide
    have hlt : c.inPacketId < c3.inPacketId := hid ▸ Int.lt_add_of_pos_right _ hpos
    have hwin : c3.inPacketId - c.inPacketId < 8192 := by rw [hid, Int.add_comm, Int.add_sub_cancel]; exact hdl
    rw [heq]
    obtain ⟨tg', ht⟩ := ackSeq_rinvF c3.notify tg calls c.inPacketId c3.inPacketId (!skip) (h.reg.congr h1 h2) hlt hwin
    refine .inr ⟨hlt, tg', skip, ht, ?_⟩
    show 0 ≤ (c3.notify.ackSeq c3.inPacketId (!skip)).inSeq ∧ (c3.notify.ackSeq c3.inPacketId (!skip)).inSeq < 16384
    rw [(ackSeq_keeps _ _ _).1, h3]
    exact hseq

theorem seqInit_rconn (c : Conn) (i o : Int) : RConn (c.seqInit i o) [] [] := by
  have hn := seqInit_notify c i o
  exact ⟨by rw [hn]; exact init_rinvF _ _ _ _ rfl, by rw [hn]; exact C13.mod_seq14 _⟩

theorem keeps_rconn {c c' : Conn} {tg calls : List (Int × Bool)} (hk : Keeps c c') (h : RConn c tg calls) : RConn c' tg calls :=
  (RegSame.of_keeps hk).rconn h

/-- **every delivery status, both ways.**  `R` is the receiver at the moment it writes a header with `w` history words, `c` the
sender that processes it.  For each status `(p, v)` the sender reports there is a position `idx` of the receiver's register — the
packet `q = R.inPacketId - idx`, congruent to `p` modulo 2^14 — such that
* `v = true`  ⇒ the receiver asked for `q` to be acknowledged (it accepted `q` and refused none of its bunches);
* `v = false` ⇒ if the position lies inside the register (`idx < 256`), inside the words transmitted and inside what the receiver
  has recorded since its sequence was initialised, the receiver did **not** ask for `q` to be acknowledged — and since requests
  are only ever made for ids above all earlier ones (`receivedPacket_rconn`), it never will. -/
theorem status_exact (c : Conn) (R : Conn) (tg calls : List (Int × Bool)) (w : Nat) (hR : RConn R tg calls) (hinv : Inv c) :
    ∀ p, p ∈ expected c.lastNotified (ackVerdicts c (R.notify.headerWith w)) →
      ∃ idx : Nat, p.1 % 16384 = (R.inPacketId - (idx : Int)) % 16384 ∧
        (p.2 = true → (R.inPacketId - (idx : Int), true) ∈ calls) ∧
        (p.2 = false → idx < 256 → idx < 32 * (min w histWordsMax) → idx < tg.length → (R.inPacketId - (idx : Int), true) ∉ calls) := by
  intro p hp
  obtain ⟨j, hj, rfl⟩ := mem_expected_ackVerdicts c _ p hp
  have hjc : j < (seq_num_diff (R.notify.headerWith w).ackedSeq c.notify.outAckSeq).toNat := by rwa [verdicts_length] at hj
  have hx := verdicts_exact R.notify tg calls R.inPacketId w c.notify.outAckSeq hR.reg j hjc _ (List.getElem?_eq_getElem hj)
  exact ⟨(seq_num_diff R.notify.inAckSeq c.notify.outAckSeq).toNat - 1 - j,
    by rw [← hx.1, verdicts_ids (R.notify.headerWith w) _ hinv j hj], hx.2.1, hx.2.2⟩

example : RConn ((({} : Conn).seqInit 5 16383)) [] [] := seqInit_rconn _ _ _

end Utcp.Props.C02
