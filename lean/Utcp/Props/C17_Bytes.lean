import Utcp.Props.C09_Bytes
/-!
# C17 at the level of the byte array: what fresh memory held does not reach a parsed bunch

`utcp_bunch_read` receives a bunch node that comes from the allocator.  In the byte-array model of `Utcp/ByteBuf.lean` the node's data array is an explicit
argument of the parser (`lDecodeBunch data`), so "regardless of what the memory returned by the allocator happened to contain" can be *stated*: the array may
hold any bytes.  The theorems below say that nothing of it survives into what the parser returns — fields, payload bits, cursor, success or failure.
(The C function additionally `memset`s the node; the theorem shows that the *result* does not depend on it.  What depends on it are the node's other fields
and the bytes of the data array above the payload, which the model does not return; `readBits_refines` (`Props/C12_Read.lean`) shows that inside the last payload byte the bits
above the run are cleared.  The seeded change C17-c — the `memset` removed — is caught by the fill-twin runs on the real code, not by this theorem.)
-/
namespace Utcp.BB
open Utcp

/-- **the parsed bunch does not depend on the previous contents of its node**: two data arrays of at least 1024 bytes (the library's hold 1452) holding *any* bytes, the same datagram
image, cursor and logical end ⇒ the same bunch (or the same failure) and the same cursor -/
theorem parse_independent_of_node_contents (b : Buf) (hb : RB b) (d d' : Mem) (hd : BytesOK d) (hd' : BytesOK d')
    (hl : 1024 ≤ d.length) (hl' : 1024 ≤ d'.length) :
    ∃ r b1 b2, lDecodeBunch d b = some (r, b1) ∧ lDecodeBunch d' b = some (r, b2) ∧ b1.num = b2.num ∧ b1.mem = b2.mem ∧ b1.size = b2.size :=
  (lDecodeBunch_refines d hd hl).agree (lDecodeBunch_refines d' hd' hl') b hb

/-! non-vacuity: a zeroed node and a node full of `0xA5` are admissible -/
example : BytesOK (List.replicate 1024 0xA5) ∧ BytesOK (List.replicate 1024 0) ∧ 1024 ≤ (List.replicate 1024 0xA5).length := by
  refine ⟨?_, ?_, by rw [List.length_replicate]; exact Nat.le_refl _⟩ <;> intro x hx <;> rw [List.mem_replicate] at hx <;> omega

end Utcp.BB
