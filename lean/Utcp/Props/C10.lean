import Utcp.Lemmas.Log
/-!
# C10 — closing a channel never discards reliable data still in flight

The deferred teardown (`utcp_delay_close_channel`, run from `utcp_update`) after the repair of defect D8.  Local
theorems, for an arbitrary connection state and therefore for every interleaving of `update` with sends, receives
and acknowledgements:
* sender: a channel that still holds unacknowledged reliable bunches (the close bunch itself included) survives the
  teardown untouched, so they keep being retransmitted;
* receiver: a close bunch that arrives ahead of a missing predecessor is only *queued*; the channel is marked closed
  when the close bunch is handed to the application in sequence, not before;
* once a closed channel has nothing left awaiting acknowledgement, the teardown releases it with everything it holds.
-/
namespace Utcp.Props.C10
open Utcp Utcp.Gen

/-- the per-channel step of the teardown loop -/
def step (c : Conn) (p : Nat × Channel) : Conn :=
  if !p.2.bClose then c
  else if !p.2.outRec.isEmpty then { c with hasChannelClose := true }
  else { c.freeChan p.2 with chans := c.chans.filter (·.1 != p.1) }

theorem delayClose_eq (c : Conn) (h : c.hasChannelClose = true) :
    c.delayClose = c.chans.reverse.foldl step { c with hasChannelClose := false } := by
  unfold Conn.delayClose
  simp only [h, Bool.not_true, Bool.false_eq_true, if_false]
  rfl

theorem freeChan_chans (c : Conn) (x : Channel) : (c.freeChan x).chans = c.chans := _root_.Utcp.freeChan_chans c x

theorem step_getChan (c : Conn) (p : Nat × Channel) (ch : Nat) (x : Channel) (h : c.getChan ch = some x)
    (hk : p.1 = ch → (p.2.bClose = false ∨ p.2.outRec ≠ [])) : (step c p).getChan ch = some x := by
  unfold step
  by_cases hb : p.2.bClose = true
  · simp only [hb, Bool.not_true, Bool.false_eq_true, if_false]
    by_cases ho : p.2.outRec.isEmpty = true
    · simp only [ho, Bool.not_true, Bool.false_eq_true, if_false]
      have hne : p.1 ≠ ch := by
        intro he
        rcases hk he with h1 | h1
        · simp [hb] at h1
        · exact h1 (List.isEmpty_iff.mp ho)
      rw [getChan_of_filter_ne rfl (Ne.symm hne)]; exact h
    · simp only [ho, Bool.not_false, if_true]; exact h
  · simp only [hb, Bool.not_false, if_true]; exact h

/-- **sender side** (and any channel not marked closed): a channel that is not closed, or that still has reliable bunches awaiting
acknowledgement, survives `utcp_update`'s teardown exactly as it was (queues, counters and all) -/
theorem teardown_keeps (c : Conn) (ch : Nat) (x : Channel) (h : c.getChan ch = some x)
    (hk : x.bClose = false ∨ x.outRec ≠ []) (huniq : ∀ p ∈ c.chans, p.1 = ch → p.2 = x) :
    c.delayClose.getChan ch = some x := by
  by_cases hc : c.hasChannelClose = true
  · rw [delayClose_eq c hc]
    have key : ∀ (l : List (Nat × Channel)) (c' : Conn), (∀ p ∈ l, p.1 = ch → p.2 = x) → c'.getChan ch = some x →
        (l.foldl step c').getChan ch = some x := by
      intro l
      induction l with
      | nil => intro c' _ h'; exact h'
      | cons p rest ih =>
        intro c' hl h'
        simp only [List.foldl_cons]
        apply ih _ (fun q hq => hl q (List.mem_cons_of_mem _ hq))
        apply step_getChan c' p ch x h'
        intro he
        rw [hl p List.mem_cons_self he]; exact hk
    exact key _ _ (fun p hp => huniq p (List.mem_reverse.mp hp)) h
  · unfold Conn.delayClose
    simp only [hc, Bool.not_false, if_true]; exact h

/-- … and the connection remembers that a teardown is still owed, so a later `update` retries it -/
theorem teardown_retries (c : Conn) (p : Nat × Channel) (hb : p.2.bClose = true) (ho : p.2.outRec ≠ []) :
    (step c p).hasChannelClose = true := by
  unfold step
  have : p.2.outRec.isEmpty = false := List.isEmpty_eq_false_iff.mpr ho
  simp [hb, this]

/-- a closed channel with nothing left to acknowledge is released together with everything it holds -/
theorem teardown_releases (c : Conn) (p : Nat × Channel) (hb : p.2.bClose = true) (ho : p.2.outRec = []) :
    (step c p).getChan p.1 = none ∧ (step c p).log = (c.freeChan p.2).log := by
  unfold step
  simp only [hb, ho, Bool.not_true, Bool.false_eq_true, if_false, List.isEmpty_nil]
  exact ⟨getChan_of_filter_self rfl, trivial⟩

/-- **receiver side**: a reliable bunch that is ahead of sequence — a close bunch included — is queued and nothing
else happens to the channel: it is *not* marked closed, so no teardown can discard it or its predecessors -/
theorem early_close_only_queued (c : Conn) (x : Channel) (b : Bunch) (hrel : b.bReliable = true) (hahead : b.chSeq > x.inReliable + 1)
    (hroom : x.inRec.length + 1 < reliableBuffer) (q : List Bunch) (hq : enqueueIncoming b x.inRec = some q) :
    (c.processBunch x b).1 = c.setChan b.chIndex { x with inRec := q } ∧ (c.processBunch x b).2 = false := by
  rw [processBunch_ahead c x b hrel hahead, if_neg (Nat.not_le.2 hroom), hq]
  exact ⟨rfl, rfl⟩

/-- the mark is set when the close bunch is handed to the application (here: a single, in-sequence bunch) -/
theorem close_marked_on_delivery (c : Conn) (b : Bunch) (x : Channel) (hx : c.getChan b.chIndex = some x)
    (hnp : b.bPartial = false) (hcl : b.bClose = true) :
    ∃ y, (c.receivedNextBunch b).1.getChan b.chIndex = some y ∧ y.bClose = true ∧ (c.receivedNextBunch b).1.hasChannelClose = true := by
  rw [receivedNextBunch_single c b x hx hnp]
  obtain ⟨c1, _, hn⟩ := noteClose_closing (c.setChan b.chIndex (if b.bReliable then { x with inReliable := b.chSeq } else x)) b _ hcl (getChan_setChan_self _ _ _)
  rw [hn]
  exact ⟨_, getChan_setChan_self _ _ _, markClosed_bClose _ _, rfl⟩

/-- `addOutRec` on a channel that exists (what `sendCommit` does for a reliable bunch, the close bunch included) leaves the channel's
retransmission list non-empty: the second alternative of `teardown_keeps`' hypothesis `hk` -/
theorem sender_close_is_retained (c : Conn) (ch : Nat) (pid : Int) (bits : Bits) (x : Channel) (h : c.getChan ch = some x) :
    ∃ y, (c.addOutRec ch pid bits).getChan ch = some y ∧ y.outRec ≠ [] := by
  rw [addOutRec_existing pid bits h]
  exact ⟨_, getChan_setChan_self _ _ _, by simp⟩

end Utcp.Props.C10
