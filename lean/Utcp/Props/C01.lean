import Utcp.Lemmas.Log
import Utcp.Props.C13
import Utcp.Props.C11
import Utcp.Lemmas.RecvOrder
/-!
# C01 — reliable bunches: exactly once, in order, intact, per channel

Local building blocks, each for arbitrary states and inputs:
* receiver: a reliable bunch is handed on only when its absolute sequence is the next one; an already processed
  sequence is dropped without any callback; a bunch ahead of sequence is queued, sorted, at most once;
  the wire residue of a sequence within the window of 512 is made absolute correctly (C13);
* sender: a reliable send consumes exactly the next sequence of its channel and retains the exact bits it put on
  the wire; a retransmission re-sends those very bits, so every copy of (channel, sequence) on the network encodes
  the same bunch, which the receiver decodes to the bunch that was sent (C11).
Over **every history** (second half of the file, `Lemmas/RecvOrder.lean`): whatever bit strings `ReceivedPacket` is fed —
genuine, duplicated, reordered, corrupted, forged — interleaved with any sends and flushes of the endpoint itself, the
channel sequence numbers of the reliable bunches handed to the application on a channel are **strictly increasing**
(`delivered_in_order`): no reliable bunch is delivered twice, none out of order (`delivered_once`).  The invariant behind it
(`RecvInv`) also covers the fragments of a reliable group still being assembled.  Scope: one incarnation of a channel — the
history contains no `utcp_update` that tears a channel down (after a teardown the numbering of a re-opened channel
legitimately starts again).
End to end: that the bunch delivered under sequence `s` *is* the bunch the peer sent under `s` is `C01Link.numbers_agree_partial`
(`Props/C01_Link.lean`), for a network that forges nothing and a channel that has carried fewer than 1024 reliable bunches.  Beyond
that (it needs the window invariant that keeps the 10-bit wire residue unambiguous), and eventual delivery (one clean exchange apart:
`Props/C01_Happy.lean`), nothing is proved in Lean: they are checked on the real code by the C01 monitor over the fault-injecting
sessions, and the two-endpoint invariant they rest on is written out in DESIGN.md, Appendix A.
-/
namespace Utcp.Props.C01
open Utcp Utcp.Gen

def Sorted (q : List Bunch) : Prop := q.Pairwise (fun a b => a.chSeq < b.chSeq)

theorem sorted_cons {a : Bunch} {q : List Bunch} : Sorted (a :: q) ↔ (∀ x ∈ q, a.chSeq < x.chSeq) ∧ Sorted q := List.pairwise_cons

/-- **queueing keeps the order and never duplicates**: the queue stays strictly sorted -/
theorem enqueue_sorted (b : Bunch) (q q' : List Bunch) (hs : Sorted q) (h : enqueueIncoming b q = some q') : Sorted q' := by
  induction q generalizing q' with
  | nil => cases h; exact List.pairwise_singleton _ _
  | cons a rest ih =>
    obtain ⟨ha, hrest⟩ := sorted_cons.mp hs
    rcases enqueueIncoming_cons_some h with ⟨hlt, rfl⟩ | ⟨hgt, r, hr, rfl⟩
    · -- in front of a head it is below: below everything queued
      refine sorted_cons.mpr ⟨fun x hx => ?_, hs⟩
      rcases List.mem_cons.mp hx with rfl | hx
      · exact hlt
      · exact Int.lt_trans hlt (ha x hx)
    · -- somewhere behind the head, which is below it and below the rest
      refine sorted_cons.mpr ⟨fun x hx => ?_, ih r hrest hr⟩
      rcases (enqueue_mem b rest r hr x).mp hx with rfl | hx
      · exact hgt
      · exact ha x hx

/-- a sequence that is already queued is refused: nothing is queued twice -/
theorem enqueue_duplicate (b : Bunch) (q : List Bunch) (h : ∃ x ∈ q, x.chSeq = b.chSeq) (hs : Sorted q) : enqueueIncoming b q = none := by
  induction q with
  | nil => simp at h
  | cons a rest ih =>
    obtain ⟨ha, hrest⟩ := sorted_cons.mp hs
    obtain ⟨x, hx, hxe⟩ := h
    rcases enqueueIncoming_cons b a rest with ⟨_, e⟩ | ⟨hlt, _⟩ | ⟨hgt, e⟩
    · exact e
    · -- `b` below the head would be below its own copy in the queue
      rcases List.mem_cons.mp hx with rfl | hx
      · exact absurd hxe (Int.ne_of_gt hlt)
      · exact (Int.lt_asymm hlt (hxe ▸ ha x hx)).elim
    · rcases List.mem_cons.mp hx with rfl | hx
      · exact absurd hxe (Int.ne_of_lt hgt)
      · rw [e, ih ⟨x, hx, hxe⟩ hrest]; rfl

/-- **already processed ⇒ dropped**: a reliable bunch at or below the channel's counter causes no callback and no
state change beyond releasing its buffer -/
theorem duplicate_dropped (c : Conn) (x : Channel) (b : Bunch) (hrel : b.bReliable = true) (hold : b.chSeq ≤ x.inReliable) :
    c.processBunch x b = (c.emit (.free .node), false) := processBunch_old c x b hrel hold

/-- a reliable bunch ahead of sequence that finds the queue full is refused: nothing is queued, the node is released, and the packet
is not acknowledged (`skip = true`), so the peer sends the bunch again -/
theorem full_queue_refuses (c : Conn) (x : Channel) (b : Bunch) (hrel : b.bReliable = true) (hahead : b.chSeq > x.inReliable + 1)
    (hfull : x.inRec.length + 1 ≥ reliableBuffer) : c.processBunch x b = (c.emit (.free .node), true) := by
  rw [processBunch_ahead c x b hrel hahead, if_pos hfull]

/-- **only the next sequence is handed on**: a reliable bunch whose handling is that of `ReceivedNextBunch`, and none of the three other
outcomes of `processBunch` (dropped, queued, refused for lack of room), has sequence exactly `InReliable + 1` -/
theorem next_only (c : Conn) (x : Channel) (b : Bunch) (hrel : b.bReliable = true)
    (h : c.processBunch x b = c.receivedNextBunch b) (hne : c.receivedNextBunch b ≠ (c.emit (.free .node), false))
    (hq : ∀ q, c.receivedNextBunch b ≠ (c.setChan b.chIndex { x with inRec := q }, false))
    (hfull : c.receivedNextBunch b ≠ (c.emit (.free .node), true)) : b.chSeq = x.inReliable + 1 := by
  rcases Int.lt_trichotomy b.chSeq (x.inReliable + 1) with h1 | h1 | h1
  · rw [processBunch_old c x b hrel (Int.lt_add_one_iff.mp h1)] at h; exact absurd h.symm hne
  · exact h1
  · rw [processBunch_ahead c x b hrel h1] at h
    split at h
    · exact absurd h.symm hfull
    · split at h
      · exact absurd h.symm (hq _)
      · exact absurd h.symm hne

/-- the waiting queue is drained only through its head, and only while the head is the next sequence -/
theorem dispatch_stops (fuel : Nat) (c : Conn) (ch : Nat) (x : Channel) (b : Bunch) (rest : List Bunch)
    (hx : c.getChan ch = some x) (hq : x.inRec = b :: rest) (hne : b.chSeq ≠ x.inReliable + 1) :
    Conn.dispatchWaiting (fuel + 1) c ch = c := by
  unfold Conn.dispatchWaiting
  simp [hx, hq, hne]

/-- the wire carries the sequence modulo 1024; against a counter within 512 of it the receiver recovers the absolute value -/
theorem absSeq_recovers (c : Conn) (x : Channel) (b : Bunch) (abs : Int) (hrel : b.bReliable = true)
    (hwire : b.chSeq = abs % 1024) (hwin : x.inReliable - 512 ≤ abs ∧ abs ≤ x.inReliable + 511) :
    (absSeq c x b).chSeq = abs := by
  unfold absSeq
  simp only [hrel, if_true, hwire]
  exact C13.makeRelative_recovers abs x.inReliable hwin

/-- **sender**: a reliable send takes exactly the next sequence number of its channel -/
theorem send_takes_next (e : Env) (c : Conn) (b : Bunch) (h0 : Bits) (x : Channel) (hrel : b.bReliable = true)
    (hx : ((c.getOrCreateChan b false).1.noteClose b).getChan b.chIndex = some x) :
    ∃ c2 : Conn, c2.getChan b.chIndex = some { x with outReliable := x.outReliable + 1 } ∧
      (c.sendCommit e b h0).2 = (c2.prepareWrite e (((encodeBunchHeader { b with chSeq := x.outReliable + 1 }).getD h0).length + b.data.length)).outPacketId := by
  rw [sendCommit_reliable e c b h0 x hrel hx]
  dsimp only
  rw [writeBits_snd]
  exact ⟨_, getChan_setChan_self _ _ _, rfl⟩

/-- **retransmission re-sends the retained bits verbatim**: `resendNodes` passes exactly `n.bits` to the send buffer -/
theorem resend_verbatim (e : Env) (c : Conn) (ch : Nat) (n : OutNode) (rest : List OutNode) :
    c.resendNodes e ch (n :: rest) =
      (match ((c.writeBits e n.bits).1).getChan ch with
        | none => (c.writeBits e n.bits).1
        | some x => (c.writeBits e n.bits).1.setChan ch { x with outRec := x.outRec ++ [{ n with packetId := (c.writeBits e n.bits).2 }] }).resendNodes e ch rest := by
  rfl

/-- what is retained for a bunch is its wire encoding, which the peer decodes to the bunch that was sent (C11) -/
theorem retained_bits_decode (b : Bunch) (hwf : WFBunch b) (rest : Bits) :
    ∃ bits, encodeBunch b = some bits ∧ decodeBunch (bits ++ rest) = .ok (wireView b) rest := C11.decode_encode b hwf rest

example : Sorted [{ chSeq := 5 }, { chSeq := 7 }] := by simp [Sorted]
example : enqueueIncoming { chSeq := 6 } [{ chSeq := 5 }, { chSeq := 7 }] = some [{ chSeq := 5 }, { chSeq := 6 }, { chSeq := 7 }] := by decide

/-- what the application and the network can do to an endpoint (no channel teardown: one incarnation of each channel) -/
inductive Op where
  | send (b : Bunch)
  | flush
  /-- the body of any datagram handed to `ReceivedPacket` -/
  | recv (bits : Bits)

def apply (e : Env) (c : Conn) : Op → Conn
  | .send b => (c.sendBunch e b).1
  | .flush => c.flush e
  | .recv bits => (c.receivedPacket e bits).1

def run (c : Conn) : List (Env × Op) → Conn
  | [] => c
  | (e, op) :: rest => run (apply e c op) rest

theorem side_step {B : Bunch → Prop} {I : Conn → Prop} {P : Event → Prop} (hI : RecvSide B I P) (e : Env) (c : Conn) (op : Op)
    (hop : ∀ bits, op = .recv bits → LoopOK B bits) : Pres I P c (apply e c op) := by
  cases op with
  | send b => exact hI.sendBunch e c b
  | flush => exact hI.flush e c
  | recv bits => exact hI.receivedPacket e c bits (hop bits rfl)

theorem side_run {B : Bunch → Prop} {I : Conn → Prop} {P : Event → Prop} (hI : RecvSide B I P) (ops : List (Env × Op)) :
    ∀ c : Conn, (∀ p ∈ ops, ∀ bits, p.2 = .recv bits → LoopOK B bits) → Pres I P c (run c ops) := by
  induction ops with
  | nil => intro c _; exact Pres.refl c
  | cons p rest ih =>
    intro c hops
    exact (side_step hI p.1 c p.2 (hops p List.mem_cons_self)).trans (ih _ (fun q hq => hops q (List.mem_cons_of_mem _ hq)))

theorem run_order (ops : List (Env × Op)) : ∀ c : Conn, RecvInv c → RecvInv (run c ops) :=
  fun c h => (side_run recvInv_side ops c (fun _ _ bits _ => loopOK_any bits) h).1

theorem fresh_order (i o : Int) : RecvInv (({} : Conn).seqInit i o) :=
  empty_recvinv _ rfl (fun _ => rfl)

/-- **in order**: after any history, the reliable bunches delivered on channel `ch` (oldest first) carry strictly increasing
channel sequence numbers -/
theorem delivered_in_order (ops : List (Env × Op)) (c : Conn) (h : RecvInv c) (ch : Nat) :
    (relLog ch (run c ops).log).Pairwise (· < ·) :=
  (run_order ops c h).increasing ch

/-- **at most once**: no channel sequence number is delivered twice -/
theorem delivered_once (ops : List (Env × Op)) (c : Conn) (h : RecvInv c) (ch : Nat) : (relLog ch (run c ops).log).Nodup := by
  have := delivered_in_order ops c h ch
  exact this.imp Int.ne_of_lt

/-- and never beyond what the channel has counted: every delivered number is at most the channel's `InReliable` -/
theorem delivered_bounded (ops : List (Env × Op)) (c : Conn) (h : RecvInv c) (ch : Nat) (x : Channel) (hx : (run c ops).getChan ch = some x) :
    ∀ s ∈ relLog ch (run c ops).log, s ≤ x.inReliable :=
  ((run_order ops c h).chans ch _ (chanRecv_of_getChan hx)).dl.2

/-- **the out-of-order queue is bounded** (the repair of defect D15): after any history, a channel never holds `UTCP_RELIABLE_BUFFER` (256)
or more bunches waiting for a missing predecessor — so, with the sender's at most 256 unacknowledged bunches, fewer than 512 sequence
numbers of a channel are in flight, which is what the 10-bit wire sequence can tell apart -/
theorem queue_bounded (ops : List (Env × Op)) (c : Conn) (h : RecvInv c) (ch : Nat) (x : Channel) (hx : (run c ops).getChan ch = some x) :
    x.inRec.length < 256 :=
  ((run_order ops c h).chans ch _ (chanRecv_of_getChan hx)).qlen

/-! non-vacuity: a fresh connection satisfies the invariant; a concrete history keeps it -/
example : RecvInv (run (({} : Conn).seqInit 3 7) [({}, .send { chIndex := 1, bOpen := true, bReliable := true }), ({}, .flush), ({}, .recv [true, false, true])]) :=
  run_order _ _ (fresh_order 3 7)

end Utcp.Props.C01
