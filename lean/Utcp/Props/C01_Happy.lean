import Utcp.Lemmas.HappyPath
/-!
# C01 — the liveness half, in its simplest instance: one reliable bunch, one clean exchange, every parameter

The safety theorems (`Props/C01.lean`, `Props/C01_Link.lean`) say what can *not* happen.  `one_bunch_round_trip` proves that the right
thing *does* happen when nothing goes wrong, for every value of every parameter.  (Eventual delivery under faults followed by a fault-free
drain is not proved; it is what the C01 monitor checks on the real code.)
-/
namespace Utcp.Props.C01Happy
open Utcp Utcp.Gen Utcp.Props Utcp.Props.C18Parse

/-- **one reliable bunch, one clean exchange, for every parameter.**  The sender `S` (connected, send buffer empty) accepts a reliable,
non-partial, non-closing bunch `b` on an existing channel and flushes; the datagram reaches a receiver `R` that is in sync: same
magic-header configuration, the channel exists with nothing queued and its counter mirrors the sender's, and `R` accepts the packet
header `S` wrote.  Then `R` hands exactly that bunch to its application — same flags, channel, name, payload, numbered with the
sender's number — in this very call, and its channel counter advances to that number. -/
theorem one_bunch_round_trip (eS eF eR : Env) (S R : Conn) (b : Bunch) (h0 : Bits) (x xr : Channel)
    (hmagic : eF.magic < 2 ^ eF.magicBits) (hcfg : eR.magicBits = eF.magicBits ∧ eR.magic = eF.magic) (hm : eS.magicBits ≤ 32)
    (hchk : S.sendCheck b = .inr h0) (hx : S.getChan b.chIndex = some x) (hrel : b.bReliable = true) (hnp : b.bPartial = false) (hcl : b.bClose = false)
    (hidle : S.sendActive = false) (hconn : S.connected = true) (hh : S.notify.hist.length = 256)
    (hseqs : (0 ≤ S.notify.outSeq ∧ S.notify.outSeq < 16384) ∧ (0 ≤ S.notify.inAckSeq ∧ S.notify.inAckSeq < 16384))
    (hxr : R.getChan b.chIndex = some xr) (hq : xr.inRec = []) (hmirror : xr.inReliable = x.outReliable)
    (hacc : R.notify.deltaSeq (S.notify.headerWith S.notify.curWords) > 0) :
    ∃ d bits b', ((S.sendBunch eS b).1.flush eF).log = .out d :: .alloc .node :: S.log ∧
      C04.wireBits eR d = some bits ∧
      Event.recv [b'] ∈ (R.receivedPacket eR bits).1.log ∧ (R.receivedPacket eR bits).2 = true ∧
      seen b' = seen b ∧ b'.chSeq = x.outReliable + 1 ∧
      ∃ xr', (R.receivedPacket eR bits).1.getChan b.chIndex = some xr' ∧ xr'.inReliable = x.outReliable + 1 := by
  obtain ⟨hdr, hhe, hlog⟩ := send_then_flush eS eF S b h0 x hchk hx hrel hcl hidle hconn hm hh
  obtain ⟨hchi, _, henc, hfit⟩ := sendCheck_cases hchk
  obtain ⟨_, hcr⟩ := header_some_of_zero b (x.outReliable + 1) h0 henc
  have wf := headerWith_curWords_wf S.notify hh hseqs
  -- what travels is the encoding of the numbered bunch
  have htb : hdr ++ b.data = bodyOf [nrm { b with chSeq := x.outReliable + 1 }] := by
    rw [bodyOf_cons, encB_nrm_of_header hhe]; exact (List.append_nil _).symm
  have hwfb : WFBunch (nrm { b with chSeq := x.outReliable + 1 }) := wf_nrm _ hcr (Nat.lt_trans hchi (by decide))
    (Nat.lt_of_le_of_lt (Nat.le_trans (Nat.le_add_left _ _) hfit) (by decide))
  -- the receiving endpoint takes the datagram apart
  obtain ⟨hwb, hdec⟩ := C04.wireBits_emitted hmagic hcfg ⟨rfl, rfl⟩ S.lastSessionId S.lastClientId
    (S.notify.headerWith S.notify.curWords) wf (hdr ++ b.data)
  -- … and hands the bunch over, numbered with the successor of its counter, which mirrors the sender's
  obtain ⟨b', r1, r2, r3, r4, xr', r5, r6⟩ := one_bunch_received eR R _ (S.notify.headerWith S.notify.curWords) (nrm { b with chSeq := x.outReliable + 1 }) xr
    (by rw [hdec, htb]) hacc hwfb hchi hxr hq hrel hnp hcl
    (by show (if b.bReliable = true then x.outReliable + 1 else 0) % 1024 = _; rw [if_pos hrel, hmirror])
  exact ⟨_, _, b', hlog, hwb, r1, r2, r3.trans (seen_wireView_nrm _), by rw [r4, hmirror], xr', r5, by rw [r6, hmirror]⟩

/-! non-vacuity: the hypotheses are met by two mirrored connections with channel 3 open -/
def exS : Conn := { (({} : Conn).seqInit 100 200).setChan 3 { inReliable := 100, outReliable := 200 } with connected := true }
def exR : Conn := { (({} : Conn).seqInit 200 100).setChan 3 { inReliable := 200, outReliable := 100 } with connected := true }
def exB : Bunch := { chIndex := 3, bReliable := true, nameIndex := 5, data := [true, false, true] }

example : ∃ h0, exS.sendCheck exB = .inr h0 := ⟨_, rfl⟩
example : exS.getChan 3 = some { inReliable := 100, outReliable := 200 } ∧ exR.getChan 3 = some { inReliable := 200, outReliable := 100 } := by decide
example : exR.notify.deltaSeq (exS.notify.headerWith exS.notify.curWords) > 0 := by decide
example : exS.notify.hist.length = 256 ∧ exS.sendActive = false := ⟨by show (List.replicate histLen false).length = 256; rw [List.length_replicate]; decide, rfl⟩

end Utcp.Props.C01Happy
