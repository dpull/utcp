import Utcp.Large
/-!
# C19 — `large_bunch`: split then reassemble is the identity, for every bit length

`large_bunch_num` is regenerated from `abstract/utcp.cpp` by `tools/ctrans.py` on every run; the fragment
extraction and the reassembly are the hand model in `Utcp/Large.lean` (tied by the `lsend` correspondence
runs, which go through the real `large_bunch` constructor, iterator and reassembling constructor).
-/
namespace Utcp.Props.C19
open Utcp Utcp.Gen

/-- the extracted constants are the ones the model was written against -/
theorem consts_ok : CXX_MAX_PARTIAL_BUNCH_SIZE_BITS = 7264 ∧ CXX_MAX_SINGLE_BUNCH_SIZE_BITS = 7265 ∧ CXX_MAX_SINGLE_BUNCH_SIZE_BYTES = 908
    ∧ CXX_MAX_PARTIAL_BUNCH_SIZE_BITS = 8 * CXX_MAX_SINGLE_BUNCH_SIZE_BYTES ∧ SIZEOF_EXT_DATA = 92928 ∧ NetMaxConstructedPartialBunchSizeBytes = 65536 := by decide

/-- every payload the constructor accepts (`bits2bytes n ≤ sizeof ExtData`) fits the 28-bit length field -/
theorem accepted_fits_field (n : Int) (h0 : 0 ≤ n) (h64 : n < 2 ^ 64 - 7) (h : bits2bytes n ≤ SIZEOF_EXT_DATA) : n < 2 ^ 28 := by
  simp only [bits2bytes, SIZEOF_EXT_DATA] at *
  omega

/-- `large_bunch::num()` as regenerated from the source: the number of full blocks of 7264 bits, plus one -/
theorem num_eq (n : Nat) (h : n < 2 ^ 28) : large_bunch_num n = if n = 0 then 1 else (n / 7264 + 1 : Nat) := by
  have h1 : ((n : Int) + 2147483648) % 4294967296 - 2147483648 = n := by
    rw [Int.emod_eq_of_lt (Int.add_nonneg (Int.natCast_nonneg n) (by decide)) (by omega), Int.add_sub_cancel]
  simp only [large_bunch_num, h1]
  by_cases hn : n = 0
  · rw [if_pos hn, hn]; rfl
  · rw [if_neg hn, if_pos (decide_eq_true (Int.natCast_pos.2 (Nat.pos_of_ne_zero hn))), Int.tdiv_eq_ediv_of_nonneg (Int.natCast_nonneg n),
      Int.natCast_add, Int.natCast_ediv]; rfl

theorem partialBits_eq : partialBits = 7264 := by decide

theorem split_eq (b : Bunch) (h : b.data.length < 2 ^ 28) :
    Large.split b = if b.data.length ≤ 7264 then [b] else (List.range (b.data.length / 7264 + 1)).map (Large.subBunch b) := by
  rw [Large.split, partialBits_eq, num_eq _ h]
  by_cases hle : b.data.length ≤ 7264
  · rw [if_pos hle, if_pos hle]
  · rw [if_neg hle, if_neg hle, if_neg (Nat.ne_of_gt (Nat.zero_lt_of_lt (Nat.not_le.1 hle))), Int.toNat_natCast]

theorem small_unsplit (b : Bunch) (h : b.data.length ≤ 7264) : Large.split b = [b] := by
  unfold Large.split; rw [partialBits_eq]; simp [h]

theorem split_length (b : Bunch) (h : b.data.length < 2 ^ 28) :
    (Large.split b).length = if b.data.length ≤ 7264 then 1 else b.data.length / 7264 + 1 := by
  rw [split_eq b h]; split
  · rfl
  · rw [List.length_map, List.length_range]

theorem chunks_take {α} (c : Nat) (l : List α) (k : Nat) :
    (List.range k).flatMap (fun i => (l.drop (c * i)).take c) = l.take (c * k) := by
  induction k with
  | zero => simp
  | succ k ih =>
    rw [List.range_succ, List.flatMap_append, ih]
    simp only [List.flatMap_cons, List.flatMap_nil, List.append_nil]
    rw [Nat.mul_succ, List.take_add]

theorem subBunch_window (b : Bunch) (pos : Nat) : (Large.subBunch b pos).data = (b.data.drop (7264 * pos)).take 7264 := by
  unfold Large.subBunch
  rw [partialBits_eq]
  simp only
  by_cases h : pos = b.data.length / 7264
  · subst h
    -- the last fragment: what is left is `length % 7264` bits, fewer than a full window
    have hlen : (b.data.drop (7264 * (b.data.length / 7264))).length = b.data.length % 7264 := by rw [List.length_drop, Nat.mod_def]
    rw [if_pos (beq_self_eq_true _), List.take_of_length_le (Nat.le_of_eq (by rw [hlen, Nat.mod_def])),
      List.take_of_length_le (by rw [hlen]; exact Nat.le_of_lt (Nat.mod_lt _ (by decide)))]
  · rw [if_neg (by simpa using h)]

/-- **reassembly is the identity**: joining the fragments reproduces the payload bit for bit (and so its length) -/
theorem join_split (b : Bunch) (h : b.data.length < 2 ^ 28) : Large.join (Large.split b) = b.data := by
  rw [split_eq b h, Large.join]; split
  · exact List.append_nil _
  · rw [List.flatMap_map, List.flatMap_def, List.map_congr_left fun i _ => subBunch_window b i, ← List.flatMap_def, chunks_take]
    exact List.take_of_length_le (Nat.le_of_lt (Nat.lt_mul_div_succ _ (by decide)))

/-- fragment lengths sum to the payload length: nothing beyond the payload is transmitted -/
theorem lengths_sum (b : Bunch) (h : b.data.length < 2 ^ 28) :
    ((Large.split b).map (·.data.length)).sum = b.data.length := by
  have := congrArg List.length (join_split b h)
  rw [← this]
  unfold Large.join
  rw [List.length_flatMap]

/-- every fragment is within the single-bunch limit -/
theorem fragment_le (b : Bunch) (f : Bunch) (hf : f ∈ Large.split b) : f.data.length ≤ 7265 := by
  by_cases hle : b.data.length ≤ 7264
  · rw [small_unsplit b hle, List.mem_singleton] at hf
    subst hf; exact Nat.le_succ_of_le hle
  · unfold Large.split at hf
    rw [if_neg (by rwa [partialBits_eq]), List.mem_map] at hf
    obtain ⟨i, _, rfl⟩ := hf
    rw [subBunch_window, List.length_take]; exact Nat.le_trans (Nat.min_le_left _ _) (by decide)

/-- flags: a payload that is split yields only partial bunches, exactly the first is initial and exactly the
last is final; channel, the reliable / open / close flags and the name index are copied (`Large.subBunch` copies the remaining
fields as well; they are not listed here) -/
theorem flags (b : Bunch) (h : b.data.length < 2 ^ 28) (hgt : b.data.length > 7264) (i : Nat) (hi : i < (Large.split b).length) :
    let f := (Large.split b)[i]
    f.bPartial = true ∧ (f.bPartialInitial = true ↔ i = 0) ∧ (f.bPartialFinal = true ↔ i + 1 = (Large.split b).length)
    ∧ f.chIndex = b.chIndex ∧ f.bReliable = b.bReliable ∧ f.bOpen = b.bOpen ∧ f.bClose = b.bClose ∧ f.nameIndex = b.nameIndex := by
  have hnle : ¬ b.data.length ≤ 7264 := Nat.not_le.mpr hgt
  have hsp := split_eq b h
  rw [if_neg hnle] at hsp
  have hl : (Large.split b).length = b.data.length / 7264 + 1 := by rw [split_length b h, if_neg hnle]
  intro f
  have hf : f = Large.subBunch b i := by
    show (Large.split b)[i] = _
    simp [hsp]
  rw [hf, hl]
  unfold Large.subBunch
  rw [partialBits_eq]
  have hdiv : b.data.length / 7264 > 0 := Nat.div_pos (Nat.le_of_lt hgt) (by decide)
  simp only [hdiv, decide_true, beq_iff_eq, true_and, and_true]
  exact Nat.add_right_cancel_iff.symm

/-! non-vacuity: the lengths that the pre-fix code split wrongly (7264·k + 7257 … 7263), and a multiple of 7264 -/
example : large_bunch_num (7264 * 2 + 7260) = 3 ∧ large_bunch_num 7265 = 2 ∧ large_bunch_num 14528 = 3 ∧ large_bunch_num 0 = 1 := by decide
example : ((Large.split { data := List.replicate 40 true }).map (·.data.length)) = [40] := by decide

end Utcp.Props.C19
