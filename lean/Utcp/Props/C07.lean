import Utcp.Props.C06
/-!
# C07 — a cookie stays valid across one secret rotation and dies on time

Proved for the exact time algebra `intOps` (integer microseconds; `utcp_gettime` = µs clock + 1 s).  The
driver runs the same model with `Float` (binary64, as the C code does); that IEEE doubles order the values
involved the same way is *assumed* (the thresholds are sampled to the millisecond in the correspondence runs,
and the clock scale factors are extracted from the code on every run — see `units`).
-/
namespace Utcp.Props.C07
open Utcp Utcp.Gen

/-- the lifetime constant is compared in the clock's own unit: `utcp_gettime()` advances by 1 per second of
`utcp_add_elapsed_time` (extracted by running the code), and the lifetime is 40 of those -/
theorem units : GETTIME_US_AT_1S - GETTIME_US_AT_0 = 1000000 ∧ GETTIME_US_AT_0 = 1000000 ∧ MAX_COOKIE_LIFETIME_S = 40 ∧ MIN_COOKIE_LIFETIME_S = 15 := by decide

/-- the two secret slots occupy disjoint 64-byte rows of `HandshakeSecret` (layout read from the compiled struct) -/
theorem slots_disjoint : SECRET_ROW_STRIDE = 64 ∧ SECRET_ROWS = 2 ∧ SECRET_BYTE_SIZE = 64 ∧ SECRET_COUNT = 2 := by decide

def lifetimeUs : Int := 40000000

/-- one rotation (`utcp_listener_update_secret` on an initialised listener) at clock `us` -/
def rotate (l : LState Int) (us : Int) (rng : Rng) (special : Option (List UInt8)) : LState Int :=
  (l.updateSecret intOps { elapsedUs := us } rng special).1

/-- a rotation flips the active slot, stamps the rotation time and overwrites **only** the newly active slot -/
theorem rotate_spec (l : LState Int) (us : Int) (rng : Rng) (special : Option (List UInt8)) (h : l.active = 0 ∨ l.active = 1) :
    (rotate l us rng special).active = 1 - l.active ∧ (rotate l us rng special).lastSecretUpdate = us + 1000000 ∧
    (l.active = 0 → (rotate l us rng special).secret0 = l.secret0) ∧ (l.active = 1 → (rotate l us rng special).secret1 = l.secret1) := by
  unfold rotate LState.updateSecret intOps
  rcases h with h | h <;> cases special <;> simp [h]

/-- a well-formed timestamp pattern (the listener only ever issues these) -/
def tsOf (us : Int) : UInt64 := intOps.toBits (intOps.now us)

theorem tsOf_value (us : Int) (h0 : 0 ≤ us + 1000000) (h1 : us + 1000000 < 2 ^ 64) : intOps.ofBits (tsOf us) = us + 1000000 := by
  unfold tsOf intOps
  simp only
  have : (us + 1000000).toNat < 2 ^ 64 := by omega
  rw [UInt64.toNat_ofNat_of_lt' this]
  exact Int.toNat_of_nonneg h0

/-- the two timing tests on the exact algebra, for a cookie issued at clock `t0` and presented at clock `t` -/
theorem validLife_iff (t0 t : Int) (hs : HsData) (h : intOps.ofBits hs.ts = t0 + 1000000) :
    LState.validLife intOps { elapsedUs := t } hs = true ↔ (0 ≤ t - t0 ∧ t - t0 < lifetimeUs) := by
  unfold LState.validLife
  rw [h]
  unfold intOps lifetimeUs
  simp only [Bool.and_eq_true, decide_eq_true_eq]
  rw [units.2.2.1]
  omega

theorem validSecret_iff (l : LState Int) (t0 : Int) (hs : HsData) (h : intOps.ofBits hs.ts = t0 + 1000000) :
    l.validSecret intOps hs = true ↔
      (if (if hs.secretId then 1 else 0) = l.active then l.lastSecretUpdate ≤ t0 + 1000000 else t0 + 1000000 ≤ l.lastSecretUpdate) := by
  unfold LState.validSecret
  rw [h]
  unfold intOps
  by_cases hc : (if hs.secretId then 1 else 0) = l.active
  · simp [hc]
  · simp [hc]; omega

/-- the response a client sends to a challenge issued by listener state `l0` at clock `t0` to `addr` -/
structure ResponseTo (mac : Mac) (l0 : LState Int) (t0 : Int) (addr : String) (hs : HsData) : Prop where
  sid : hs.secretId = (l0.active != 0)
  ts : intOps.ofBits hs.ts = t0 + 1000000
  ck : hs.cookie = l0.cookie mac addr hs.secretId hs.ts
  act : l0.active = 0 ∨ l0.active = 1
  after : l0.lastSecretUpdate ≤ t0 + 1000000      -- the challenge was issued after the listener's last rotation

theorem ResponseTo.slot {mac : Mac} {l0 : LState Int} {t0 : Int} {addr : String} {hs : HsData} (hr : ResponseTo mac l0 t0 addr hs) :
    (if hs.secretId then 1 else 0) = l0.active := by
  rw [hr.sid]; exact slot_of_active hr.act

theorem other_slot {a : Nat} (h : a = 0 ∨ a = 1) : (1 - a = 0 ∨ 1 - a = 1) ∧ a ≠ 1 - a ∧ 1 - (1 - a) = a := by
  rcases h with rfl | rfl <;> decide

theorem accepted_iff_in_time (mac : Mac) (l : LState Int) (t0 t : Int) (addr : String) (hs : HsData) (hts : intOps.ofBits hs.ts = t0 + 1000000) (ht : t0 ≤ t)
    (hslot : l.validSecret intOps hs = true) (hck : hs.cookie = mac (if hs.secretId then l.secret1 else l.secret0) (C06.cookieInput hs.ts addr)) :
    l.decision intOps mac { elapsedUs := t } addr hs = 0 ↔ t - t0 < lifetimeUs := by
  rw [C06.decision_zero_iff]
  exact ⟨fun h => ((validLife_iff t0 t hs hts).mp h.fresh).2, fun h => ⟨(validLife_iff t0 t hs hts).mpr ⟨by omega, h⟩, hslot, hck⟩⟩

/-- **no rotation**: accepted iff it arrives before the lifetime has elapsed -/
theorem no_rotation (mac : Mac) (l0 : LState Int) (t0 t : Int) (addr : String) (hs : HsData) (hr : ResponseTo mac l0 t0 addr hs) (ht : t0 ≤ t) :
    l0.decision intOps mac { elapsedUs := t } addr hs = 0 ↔ t - t0 < lifetimeUs := by
  refine accepted_iff_in_time mac l0 t0 t addr hs hr.ts ht ?_ (by rw [hr.ck, C06.cookie_eq])
  rw [validSecret_iff l0 t0 hs hr.ts, if_pos hr.slot]
  exact hr.after

/-- **one rotation** between challenge and response (random or caller-supplied secret): still accepted iff inside the lifetime -/
theorem one_rotation (mac : Mac) (l0 : LState Int) (t0 t1 t : Int) (addr : String) (hs : HsData) (rng : Rng) (sp : Option (List UInt8))
    (hr : ResponseTo mac l0 t0 addr hs) (h01 : t0 ≤ t1) (h1t : t1 ≤ t) :
    (rotate l0 t1 rng sp).decision intOps mac { elapsedUs := t } addr hs = 0 ↔ t - t0 < lifetimeUs := by
  obtain ⟨ha, hu, hs0, hs1⟩ := rotate_spec l0 t1 rng sp hr.act
  refine accepted_iff_in_time mac _ t0 t addr hs hr.ts (Int.le_trans h01 h1t) ?_ ?_
  -- the response names the slot that is no longer active, and was issued before the rotation
  · rw [validSecret_iff _ t0 hs hr.ts, ha, hu, if_neg (by rw [hr.slot]; exact (other_slot hr.act).2.1)]
    exact Int.add_le_add_right h01 _
  -- that slot still holds the secret the cookie was made with
  · rw [hr.ck, C06.cookie_eq]
    rcases hr.act with h | h
    · have : hs.secretId = false := by rw [hr.sid]; simp [h]
      simp [this, hs0 h]
    · have : hs.secretId = true := by rw [hr.sid]; simp [h]
      simp [this, hs1 h]

/-- **two rotations**, the second one strictly after the challenge was issued: rejected (`-6`), whatever the secrets -/
theorem two_rotations (mac : Mac) (l0 : LState Int) (t0 t1 t2 t : Int) (addr : String) (hs : HsData) (r1 r2 : Rng) (s1 s2 : Option (List UInt8))
    (hr : ResponseTo mac l0 t0 addr hs) (h02 : t0 < t2) :
    (rotate (rotate l0 t1 r1 s1) t2 r2 s2).decision intOps mac { elapsedUs := t } addr hs = -6 := by
  obtain ⟨ha, -⟩ := rotate_spec l0 t1 r1 s1 hr.act
  obtain ⟨ha2, hu2, -⟩ := rotate_spec (rotate l0 t1 r1 s1) t2 r2 s2 (by rw [ha]; exact (other_slot hr.act).1)
  rw [(C06.decision_codes _ _ _ _ _ _).1, Bool.and_eq_false_iff]
  -- the named slot is the active one again, but it was refilled after the challenge was issued
  refine Or.inr (Bool.eq_false_iff.mpr fun hc => ?_)
  rw [validSecret_iff _ t0 hs hr.ts, ha2, hu2, ha, if_pos (by rw [hr.slot, (other_slot hr.act).2.2])] at hc
  omega

theorem outside_lifetime (mac : Mac) (l : LState Int) (t0 t : Int) (addr : String) (hs : HsData) (hts : intOps.ofBits hs.ts = t0 + 1000000)
    (h : ¬ (0 ≤ t - t0 ∧ t - t0 < lifetimeUs)) : l.decision intOps mac { elapsedUs := t } addr hs = -6 := by
  rw [(C06.decision_codes _ _ _ _ _ _).1, Bool.and_eq_false_iff]
  exact Or.inl (Bool.eq_false_iff.mpr (mt (validLife_iff t0 t hs hts).mp h))

/-- the lifetime has elapsed: rejected, whatever the listener's state -/
theorem lifetime_elapsed (mac : Mac) (l : LState Int) (t0 t : Int) (addr : String) (hs : HsData) (hts : intOps.ofBits hs.ts = t0 + 1000000)
    (h : t - t0 ≥ lifetimeUs) : l.decision intOps mac { elapsedUs := t } addr hs = -6 :=
  outside_lifetime mac l t0 t addr hs hts fun h' => Int.not_lt.mpr h h'.2

/-- a response from the future (clock went backwards / forged timestamp) is rejected, whatever the listener's state -/
theorem from_the_future (mac : Mac) (l : LState Int) (t0 t : Int) (addr : String) (hs : HsData) (hts : intOps.ofBits hs.ts = t0 + 1000000)
    (h : t < t0) : l.decision intOps mac { elapsedUs := t } addr hs = -6 :=
  outside_lifetime mac l t0 t addr hs hts fun h' => Int.not_le.mpr (Int.sub_neg_of_lt h) h'.1

/-! non-vacuity: the premises are satisfiable, e.g. slot 0 active, challenge 5 s after the last rotation -/
example : ResponseTo (fun k m => k.take 4 ++ m.take 16) { lastSecretUpdate := 1000000, active := 0 } 5000000 "a:1"
    { secretId := false, ts := tsOf 5000000,
      cookie := ({ lastSecretUpdate := 1000000, active := 0 } : LState Int).cookie (fun k m => k.take 4 ++ m.take 16) "a:1" false (tsOf 5000000) } := by
  constructor <;> first | rfl | decide | simp

end Utcp.Props.C07
