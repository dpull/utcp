import Utcp.Props.C18
import Utcp.Props.C13
/-!
# C02: the id a send returns is the id of the packet that carries the bunch

`utcp_send_bunch` returns a full (32-bit, here unbounded) packet id; delivery statuses are reported for full ids as well (`Props/C02_Order.lean`); on the wire
only 14 bits travel.  This file ties the three together on the sending side, over every history.  What makes it go: the 14-bit wire sequence and the
full id move in one place only (`flushNow`), together — although datagrams are emitted from many places: flushes, sends that spill into the next packet,
and the retransmissions a NAK triggers in the middle of `ReceivedPacket`.
-/
namespace Utcp.Props.C02Hist
open Utcp Utcp.Gen Utcp.Props

def OutInv (c : Conn) : Prop := c.notify.outSeq = c.outPacketId % 16384

def OStep (c c' : Conn) : Prop := OutInv c → OutInv c'

theorem OStep.of_eq {c c' : Conn} (h1 : c'.notify.outSeq = c.notify.outSeq) (h2 : c'.outPacketId = c.outPacketId) : OStep c c' := by
  intro h; unfold OutInv at h ⊢; rw [h1, h2]; exact h

theorem ostep_aclosed (e : Env) : AClosed e OStep :=
  .of_flushNow (fun _ h => h) (fun h1 h2 h => h2 (h1 h))
    (fun c _ h => by
      obtain ⟨r, w, hn⟩ := flushNow_notify e c
      unfold OutInv at h ⊢
      rw [hn]
      show seq_num_inc c.notify.outSeq 1 = (c.outPacketId + 1) % 16384
      rw [h, C13.inc_eq, Int.emod_add_emod])
    (fun _ _ h1 h2 _ _ _ => .of_eq h1 h2)

theorem seqInit_outinv (c : Conn) (i o : Int) : OutInv (c.seqInit i o) := by
  unfold OutInv Conn.seqInit Notify.init
  show seq_num_init (o % 65536) = o % 16384
  exact seq_num_init_mod o

/-- **every history**: the wire sequence of the next packet is its full id modulo 2^14 -/
theorem run_outinv (ops : List (Env × C18.Op)) : ∀ c : Conn, OutInv c → OutInv (C18.run c ops) := C18.run_aclosed ostep_aclosed ops

theorem fresh_run_outinv (ops : List (Env × C18.Op)) (i o : Int) : OutInv (C18.run (({} : Conn).seqInit i o) ops) :=
  run_outinv ops _ (seqInit_outinv _ i o)

/-- **the header carries the id**: the header written when a packet is started (`fillFresh`) and the header it is refreshed with when it is emitted
(`fillRefresh`, when the history still fits) both have the next packet's full id modulo 2^14 in their sequence field -/
theorem header_carries_id (c : Conn) (h : OutInv c) :
    c.notify.fillFresh.2.seq = c.outPacketId % 16384 ∧ ∀ n hd, c.notify.fillRefresh = some (n, hd) → hd.seq = c.outPacketId % 16384 := by
  refine ⟨h, fun n hd hr => ?_⟩
  unfold Notify.fillRefresh at hr
  split at hr
  · cases hr
  · cases hr; exact h

/-- `WriteBitsToSendBufferInternal` returns the id of the packet whose buffer it appended to -/
theorem writeInternal_returns (e : Env) (c : Conn) (bits : Bits) : (c.writeInternal e bits).2 = c.outPacketId := rfl

/-- the packet `WriteBitsToSendBufferInternal` appended to is either still pending under its id, with the bits at the end of its body, or has just been
emitted (the buffer was full) -/
theorem writeInternal_cases (e : Env) (c : Conn) (bits : Bits) :
    ((c.writeInternal e bits).1.outPacketId = c.outPacketId ∧ (c.writeInternal e bits).1.sendBody = c.sendBody ++ bits) ∨
    (c.writeInternal e bits).1 = ({ c with sendBody := c.sendBody ++ bits } : Conn).flush e := by
  unfold Conn.writeInternal
  dsimp only
  split
  · exact Or.inr rfl
  · exact Or.inl ⟨rfl, rfl⟩

theorem prepareWrite_active (e : Env) (c : Conn) (n : Nat) : (c.prepareWrite e n).sendActive = true := by
  unfold Conn.prepareWrite
  dsimp only
  generalize (if decide ((n : Int) > c.freeBits e) = true then c.flush e else c) = c'
  -- a packet is started unless one is open already
  cases h : c'.sendActive
  · rfl
  · exact h

/-- **an accepted send returns the id of the open packet it writes into**: `SendRawBunch` opens a packet if none is open (`prepareWrite`, which first
emits the pending one if the bunch does not fit) and returns that packet's id.  The connection `c3` after `prepareWrite` is existential in the statement
and tied to the result of the send by the logs only (the log of `c3.writeInternal`, up to one `alloc`), not by the states. -/
theorem send_returns_pending_id (e : Env) (c : Conn) (b : Bunch) (h0 : Bits) (x : Channel)
    (hx : ((c.getOrCreateChan b false).1.noteClose b).getChan b.chIndex = some x) :
    ∃ c3 : Conn, c3.sendActive = true ∧ (c.sendCommit e b h0).2 = c3.outPacketId ∧
      ∃ bits, (c.sendCommit e b h0).1.log = ((c3.writeInternal e bits).1).log ∨ (c.sendCommit e b h0).1.log = .alloc .node :: ((c3.writeInternal e bits).1).log := by
  -- reliable or not, the commit is one `writeBits`, that is `prepareWrite` then `writeInternal`; a reliable bunch adds the node for its record
  cases hr : b.bReliable with
  | false =>
    rw [sendCommit_unreliable e c b h0 x hr hx, ← prepareWrite_writeInternal]
    exact ⟨_, prepareWrite_active e _ _, rfl, _, .inl rfl⟩
  | true =>
    rw [sendCommit_reliable e c b h0 x hr hx]
    dsimp only
    rw [addOutRec_log, emit_log, ← prepareWrite_writeInternal]
    exact ⟨_, prepareWrite_active e _ _, rfl, _, .inr rfl⟩

/-- emitting the open packet consumes exactly its id -/
theorem flush_consumes_id (e : Env) (c : Conn) : (c.flushNow e).outPacketId = c.outPacketId + 1 ∧ ∃ d, (c.flushNow e).log = .out d :: c.log :=
  ⟨rfl, _, rfl⟩

def isOutB : Event → Bool | .out _ => true | _ => false

def outs (log : List Event) : Nat := (log.filter isOutB).length

/-- datagrams emitted by the step = packet ids consumed by the step -/
def ECnt (c c' : Conn) : Prop := ((outs c'.log : Nat) : Int) - (outs c.log : Nat) = c'.outPacketId - c.outPacketId

theorem ECnt.of_eq {c c' : Conn} (h1 : c'.log = c.log) (h2 : c'.outPacketId = c.outPacketId) : ECnt c c' := by
  unfold ECnt; rw [h1, h2]; omega

theorem emit_ecnt (c : Conn) (ev : Event) (h : ∀ bytes, ev ≠ .out bytes) : ECnt c (c.emit ev) := by
  unfold ECnt outs
  have : isOutB ev = false := by cases ev <;> first | rfl | exact absurd rfl (h _)
  simp [Conn.emit, this]

/-- the one place where a datagram leaves, `flushNow`: one datagram, one id -/
theorem ecnt_aclosed (e : Env) : AClosed e ECnt where
  refl _ := .of_eq rfl rfl
  trans h1 h2 := by unfold ECnt at *; omega
  startPacket _ := .of_eq rfl rfl
  flushNow c _ := by
    show (((c.log.filter isOutB).length + 1 : Nat) : Int) - ((c.log.filter isOutB).length : Nat) = (c.outPacketId + 1) - c.outPacketId
    omega
  append _ _ := .of_eq rfl rfl
  setChan _ _ _ _ _ _ _ := .of_eq rfl rfl
  markClosed _ _ _ _ _ := .of_eq rfl rfl
  create c ch _ := by
    unfold ECnt outs
    rw [(createChan_adds (P := isMem) (fun _ h => h) c ch).filter_eq isOutB (fun ev h => by cases ev <;> first | rfl | cases h),
      createChan_outPacketId]
    omega
  remove _ _ := .of_eq rfl rfl
  emit := emit_ecnt
  markClose c r := by obtain ⟨_, _, h⟩ := markClose_eq c r; rw [h]; exact .of_eq rfl rfl
  owe _ _ := .of_eq rfl rfl
  notified _ := .of_eq rfl rfl
  acked _ := .of_eq rfl rfl
  notify _ _ _ _ _ := .of_eq rfl rfl
  ackSeq _ _ _ := .of_eq rfl rfl
  inPacket _ _ := .of_eq rfl rfl

theorem run_ecnt (ops : List (Env × C18.Op)) : ∀ c : Conn, ECnt c (C18.run c ops) := C18.run_aclosed ecnt_aclosed ops

/-- **one id per datagram**: after any history of a connection started by `utcp_sequence_init i o`, the number of datagrams it has handed to the outgoing
callback is exactly the number of packet ids it has consumed (`OutPacketId − o`) — whether they left through a flush, through a send that spilled into the next
packet or through a retransmission triggered while a packet was being received.  With `run_outinv` / `header_carries_id`: the k-th datagram carries the wire
sequence `(o + k) mod 2^14`, and by `Props/C02_Order.lean` the k-th status is the verdict for id `o + k` -/
theorem datagrams_count (ops : List (Env × C18.Op)) (i o : Int) :
    ((outs (C18.run (({} : Conn).seqInit i o) ops).log : Nat) : Int) = (C18.run (({} : Conn).seqInit i o) ops).outPacketId - o := by
  have h := run_ecnt ops (({} : Conn).seqInit i o)
  unfold ECnt at h
  have h0 : outs (({} : Conn).seqInit i o).log = 0 := rfl
  have h1 : (({} : Conn).seqInit i o).outPacketId = o := rfl
  rw [h0, h1] at h
  omega

/-! non-vacuity: a fresh connection whose initial outgoing sequence is beyond the 14-bit range -/
example : OutInv (({} : Conn).seqInit 100 70000) := seqInit_outinv _ _ _
example : (({} : Conn).seqInit 100 70000).notify.outSeq = 4464 := by decide

end Utcp.Props.C02Hist
