import Utcp.Props.C09_Bytes
import Utcp.Conn
/-!
# C09 / C11 at the level of the byte array: the packet header parser

`packet_header_read` (`utcp_packet_notify.c`) as the sequence of bit-buffer calls it makes — the packed word, the loop over the history words (one
`bitbuf_read_int_byte_order` per word, *not* one run of `32·w` bits), the packet-info bit and the optional jitter / frame-time fields — over the byte-array model
of `Utcp/ByteBuf.lean`, in which touching a byte outside an array is a fault.  It is shown to compute what the bit-level `decodePacketHeader` of `Utcp/Conn.lean`
computes (the function every C02 / C04 / C18 theorem reasons about): same header, same remaining bits, same close reason on failure.  Hence, for every datagram
image, cursor and logical end, the header parser reads only bytes that hold valid bits.
-/
namespace Utcp.BB
open Utcp

/-- `for (i = 0; i < n; ++i) if (!bitbuf_read_int_byte_order(bitbuf, &History[i])) return -2;` -/
def lReadWords : Nat → LRd (List Nat)
  | 0 => LRd.pure []
  | n + 1 => lReadU32.bind fun w => (lReadWords n).bind fun ws => LRd.pure (w :: ws)

/-- the same loop on bits -/
def readWords : Nat → Rd (List Nat)
  | 0 => pure []
  | n + 1 => Utcp.readU32 >>= fun w => readWords n >>= fun ws => pure (w :: ws)

theorem lReadWords_refines (n : Nat) : Refines (lReadWords n) (readWords n) := by
  induction n with
  | zero => exact Refines.pure _
  | succ n ih =>
    unfold lReadWords readWords
    exact Refines.bind lReadU32_refines fun w => Refines.bind ih fun ws => Refines.pure _

theorem readWords_histWords (n : Nat) (bs : Bits) (h : 32 * n ≤ bs.length) : readWords n bs = .ok (histWords n bs) (bs.drop (32 * n)) := by
  induction n generalizing bs with
  | zero => simp [readWords, histWords]
  | succ n ih =>
    have hsucc : 32 * (n + 1) = 32 + 32 * n := by rw [Nat.mul_succ, Nat.add_comm]
    rw [hsucc] at h
    unfold readWords
    rw [Rd.bind_apply, readU32_ok bs (Nat.le_trans (Nat.le_add_right 32 _) h)]
    simp only [Rd.bind_apply, ih (bs.drop 32) (List.length_drop ▸ Nat.le_sub_of_add_le' h), Rd.pure_apply, List.drop_drop, histWords]
    congr 1
    rw [hsucc]

theorem readWords_ok (n : Nat) (bs : Bits) (h : 32 * n ≤ bs.length) :
    ∃ ws, readWords n bs = .ok ws (bs.drop (32 * n)) ∧ words32Bits ws = bs.take (32 * n) ∧ ws.length = n :=
  ⟨histWords n bs, readWords_histWords n bs h, words32Bits_histWords n bs h, histWords_length n bs⟩

theorem readWords_fail (n : Nat) (bs : Bits) (h : ¬ 32 * n ≤ bs.length) : ∃ r, readWords n bs = .fail r := by
  induction n generalizing bs with
  | zero => omega
  | succ n ih =>
    unfold readWords
    rw [Rd.bind_apply]
    by_cases h32 : 32 ≤ bs.length
    · rw [readU32_ok bs h32]
      obtain ⟨r, hr⟩ := ih (bs.drop 32) (by rw [List.length_drop]; omega)
      exact ⟨r, by simp only [Rd.bind_apply, hr]⟩
    · rw [readU32_fail bs h32]
      exact ⟨bs, rfl⟩

/-- the word loop against the one run of `32·n` bits the bit-level model reads: both succeed, with the same bits and the same remainder, or both fail -/
theorem readWords_run (n : Nat) (bs : Bits) :
    (∃ ws, readWords n bs = .ok ws (bs.drop (32 * n)) ∧ Utcp.readBits (32 * n) bs = .ok (words32Bits ws) (bs.drop (32 * n))) ∨
    (∃ r, readWords n bs = .fail r ∧ Utcp.readBits (32 * n) bs = .fail bs) := by
  unfold Utcp.readBits
  by_cases h : 32 * n ≤ bs.length
  · obtain ⟨ws, hws, hbits, _⟩ := readWords_ok n bs h
    exact .inl ⟨ws, hws, by rw [if_pos h, hbits]⟩
  · obtain ⟨r, hr⟩ := readWords_fail n bs h
    exact .inr ⟨r, hr, if_neg h⟩

/-- what `packet_notify_read_header` leaves in the `notification_header`: the unpacked word (`PackedHeader_UnPack`), `MIN(_countof(History), count + 1)`
words of history -/
def notifOf (packed : Nat) (ws : List Nat) : NotifHeader :=
  { seq := ((packed / 2^18 % 16384 : Nat) : Int), ackedSeq := ((packed / 16 % 16384 : Nat) : Int),
    words := min histWordsMax ((packed % 16) + 1), hist := words32Bits ws }

/-- `packet_notify_read_header` on the byte array -/
def lReadNotif : LRd NotifHeader :=
  lReadU32.bind fun packed => (lReadWords (min histWordsMax ((packed % 16) + 1))).bind fun ws => LRd.pure (notifOf packed ws)

def readNotif : Rd NotifHeader :=
  Utcp.readU32 >>= fun packed => readWords (min histWordsMax ((packed % 16) + 1)) >>= fun ws => pure (notifOf packed ws)

theorem lReadNotif_refines : Refines lReadNotif readNotif :=
  Refines.bind lReadU32_refines fun _ => Refines.bind (lReadWords_refines _) fun _ => Refines.pure _

/-- the part of `packet_header_read` behind the notification header: `bHasPacketInfoPayload`, and if set the 10-bit jitter clock, `bHasServerFrameTime` and, if
that is set, one byte read into `FrameTimeByte` (a one-byte field of the `packet_header`) -/
def lReadExtra (frameTimeByte : Mem) : LRd Unit :=
  lReadBit.bind fun info =>
  if !info then LRd.pure () else
  (lReadInt 1024).bind fun _ =>
  lReadBit.bind fun ft =>
  if !ft then LRd.pure () else
  (lReadBitsInto frameTimeByte 8).bind fun _ => LRd.pure ()

def readExtra : Rd Unit :=
  Utcp.readBit >>= fun info =>
  if !info then pure () else
  Utcp.readInt 1024 >>= fun _ =>
  Utcp.readBit >>= fun ft =>
  if !ft then pure () else
  Utcp.readBits 8 >>= fun _ => pure ()

theorem lReadExtra_refines (fb : Mem) (hfb : BytesOK fb) (hl : 1 ≤ fb.length) : Refines (lReadExtra fb) readExtra := by
  unfold lReadExtra readExtra
  refine Refines.bind lReadBit_refines fun info => ?_
  refine Refines.ite (!info) (Refines.pure ()) ?_
  refine Refines.bind (lReadInt_refines _) fun _ => ?_
  refine Refines.bind lReadBit_refines fun ft => ?_
  refine Refines.ite (!ft) (Refines.pure ()) ?_
  exact Refines.bind (lReadBitsInto_refines fb hfb 8 (by omega)) fun _ => Refines.pure ()

/-- `packet_header_read` on the byte array: the header, or the close reason the caller reports -/
def lDecodePacketHeader (frameTimeByte : Mem) (b : Buf) : Option (Except Nat NotifHeader × Buf) :=
  match lReadNotif b with
  | none => none
  | some (none, b1) => some (.error crReadHeaderFail, b1)
  | some (some h, b1) =>
    match lReadExtra frameTimeByte b1 with
    | none => none
    | some (none, b2) => some (.error crReadHeaderExtraFail, b2)
    | some (some _, b2) => some (.ok h, b2)

theorem decodePacketHeader_eq (bs : Bits) :
    decodePacketHeader bs =
      match readNotif bs with
      | .fail _ => .error crReadHeaderFail
      | .ok h r => match readExtra r with
        | .fail _ => .error crReadHeaderExtraFail
        | .ok _ r' => .ok (h, r') := by
  unfold decodePacketHeader readNotif
  rw [Rd.bind_apply]
  by_cases h32 : 32 ≤ bs.length
  · rw [readU32_ok bs h32]
    simp only [Rd.bind_apply]
    generalize hp : bitsToNat (bs.take 32) = packed
    generalize hw : min histWordsMax (packed % 16 + 1) = w
    rcases readWords_run w (bs.drop 32) with ⟨ws, hws, hrb⟩ | ⟨r, hr, hrb⟩
    · rw [hws, hrb]
      simp only [Rd.pure_apply]
      have hn : notifOf packed ws = { seq := ((packed / 2^18 % 16384 : Nat) : Int), ackedSeq := ((packed / 16 % 16384 : Nat) : Int), words := w,
                                      hist := words32Bits ws } := by
        unfold notifOf; rw [hw]
      rw [hn]
      generalize (bs.drop 32).drop (32 * w) = r
      unfold readExtra
      rw [Rd.bind_apply]
      cases hb1 : Utcp.readBit r with
      | fail r1 => rfl
      | ok info r1 =>
        simp only
        cases info with
        | false => simp
        | true =>
          simp only [Bool.not_true, Bool.false_eq_true, if_false, Rd.bind_apply]
          cases hi : Utcp.readInt 1024 r1 with
          | fail r2 => rfl
          | ok v r2 =>
            simp only
            cases hb2 : Utcp.readBit r2 with
            | fail r3 => rfl
            | ok ft r3 =>
              simp only
              cases ft with
              | false => simp
              | true =>
                simp only [Bool.not_true, Bool.false_eq_true, if_false, Rd.bind_apply]
                cases hb3 : Utcp.readBits 8 r3 with
                | fail r4 => rfl
                | ok v4 r4 => simp
    · rw [hr, hrb]
  · rw [readU32_fail bs h32]

/-- **the header parser on the byte array**: for every datagram image, cursor and logical end, `packet_header_read` touches no byte outside the datagram's valid
bytes and the one-byte `FrameTimeByte` field, and returns what the bit-level `decodePacketHeader` returns on the remaining bits — the same header with the same
bits left over for the bunches, or the same close reason -/
theorem lDecodePacketHeader_refines (fb : Mem) (hfb : BytesOK fb) (hl : 1 ≤ fb.length) (b : Buf) (hb : RB b) :
    ∃ r b', lDecodePacketHeader fb b = some (r, b') ∧ RB b' ∧ b'.mem = b.mem ∧ b'.size = b.size ∧
      decodePacketHeader (rest b) = (match r with | .ok h => .ok (h, rest b') | .error e => .error e) := by
  rw [decodePacketHeader_eq]
  unfold lDecodePacketHeader
  obtain ⟨r1, b1, h1, hrb1, hm1, hs1, hS1⟩ := lReadNotif_refines b hb
  rw [h1, hS1]
  cases r1 with
  | none => exact ⟨.error crReadHeaderFail, b1, rfl, hrb1, hm1, hs1, rfl⟩
  | some h =>
    obtain ⟨r2, b2, h2, hrb2, hm2, hs2, hS2⟩ := lReadExtra_refines fb hfb hl b1 hrb1
    simp only
    rw [h2, hS2]
    cases r2 with
    | none => exact ⟨.error crReadHeaderExtraFail, b2, rfl, hrb2, hm2.trans hm1, hs2.trans hs1, rfl⟩
    | some u => exact ⟨.ok h, b2, rfl, hrb2, hm2.trans hm1, hs2.trans hs1, rfl⟩

/-- **no input makes the header parser touch memory it does not own** -/
theorem header_parse_never_faults (fb : Mem) (hfb : BytesOK fb) (hl : 1 ≤ fb.length) (b : Buf) (hb : RB b) :
    ∃ r b', lDecodePacketHeader fb b = some (r, b') ∧ b'.num ≤ b'.size ∧ b'.size = b.size := by
  obtain ⟨r, b', h, hrb, _, hs, _⟩ := lDecodePacketHeader_refines fb hfb hl b hb
  exact ⟨r, b', h, hrb.num, hs⟩

/-- the history array of the `notification_header` holds as many words as the loop can ask for (`MIN(_countof(History), …)`; extent extracted from the source) -/
theorem history_array_suffices (packed : Nat) : min histWordsMax ((packed % 16) + 1) ≤ Gen.SequenceHistoryWordCount.toNat :=
  Nat.min_le_left _ _

/-- **header and first bunch**: on any datagram image the header parser followed by the bunch parser stays inside the arrays (datagram, `FrameTimeByte`, the
bunch node's data array) whatever the bytes are -/
theorem header_then_bunch_never_faults (fb data : Mem) (hfb : BytesOK fb) (hl : 1 ≤ fb.length) (hdata : BytesOK data) (hlen : 1024 ≤ data.length)
    (b : Buf) (hb : RB b) :
    ∃ r b1, lDecodePacketHeader fb b = some (r, b1) ∧ ∃ r2 b2, lDecodeBunch data b1 = some (r2, b2) ∧ b2.num ≤ b2.size ∧ b2.size = b.size := by
  obtain ⟨r, b1, h, hrb, _, hs, _⟩ := lDecodePacketHeader_refines fb hfb hl b hb
  obtain ⟨r2, b2, h2, hle, hs2⟩ := bunch_parse_never_faults b1 hrb data hdata hlen
  exact ⟨r, b1, h, r2, b2, h2, hle, hs2.trans hs⟩

/-! non-vacuity: a six-byte image with 41 valid bits, frame-time byte array of one byte -/
example : RB ⟨[0x10, 0x00, 0x04, 0x00, 0xFF, 0x01], 41, 0⟩ ∧ BytesOK [0] ∧ 1 ≤ [0].length :=
  ⟨⟨by intro x hx; simp at hx; omega, by decide, by decide⟩, by intro x hx; simp at hx; omega, by decide⟩

end Utcp.BB
