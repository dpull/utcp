import Utcp.Props.C02_Hist
import Utcp.Lemmas.RecvAdds
/-!
# C02, first clause, over every history — one verdict per packet, in increasing order, without gaps

`Props/C02.lean` shows that *one* accepted header is reported as consecutive packet ids.  Here the same is shown for everything a connection ever reports, after
any history of sends (valid or not), flushes, incoming packet bodies of any bits and updates, at any clock values (`statuses_consecutive`, `statuses_count`).
-/
namespace Utcp.Props.C02Hist
open Utcp Utcp.Gen Utcp.Props Utcp.Props.C02

theorem expected_append (vs ws : List (Int × Bool)) : ∀ ln : Int, expected ln (vs ++ ws) = expected (ln + vs.length) ws ++ expected ln vs := by
  induction vs with
  | nil => intro ln; simp [expected]
  | cons v rest ih =>
    intro ln
    simp only [List.cons_append, expected, ih (ln + 1), List.length_cons, List.append_assoc]
    congr 2
    push_cast
    omega

/-- the two fields the status bookkeeping reads are the same -/
structure CntSame (c c' : Conn) : Prop where
  lastNotified : c'.lastNotified = c.lastNotified
  outAckSeq : c'.notify.outAckSeq = c.notify.outAckSeq

theorem CntSame.refl (c : Conn) : CntSame c c := ⟨rfl, rfl⟩
theorem CntSame.trans {a b c : Conn} (h1 : CntSame a b) (h2 : CntSame b c) : CntSame a c := ⟨h2.1.trans h1.1, h2.2.trans h1.2⟩
theorem CntSame.of_keeps {c c' : Conn} (h : Keeps c c') : CntSame c c' := ⟨h.lastNotified, h.outAckSeq⟩
theorem CntSame.of_sameN {c c' : Conn} (h : SameN c c') : CntSame c c' := ⟨h.lastNotified, by rw [h.notify]⟩

def NoStat (ev : Event) : Prop := isStatus ev = false

theorem noStat_recvPred : RecvPred NoStat := ⟨fun _ => rfl, fun _ => rfl, fun _ => rfl, fun _ _ _ => rfl⟩

/-- what one operation contributes: a (possibly empty) run of verdicts that continues the counter -/
def Reports (c c' : Conn) : Prop :=
  ∃ vs : List (Int × Bool), statuses c'.log = expected c.lastNotified vs ++ statuses c.log ∧ c'.lastNotified = c.lastNotified + vs.length ∧ C02.Inv c'

theorem Reports.silent {c c' : Conn} (hinv : C02.Inv c) (ha : Adds NoStat c c') (hs : CntSame c c') : Reports c c' := by
  refine ⟨[], ?_, by simp [hs.lastNotified], ?_⟩
  · rw [statuses_of_adds ha (fun _ h => h)]; simp [expected]
  · unfold C02.Inv at hinv ⊢; rw [hs.outAckSeq, hs.lastNotified]; exact hinv

theorem Reports.inv {c c' : Conn} (h : Reports c c') : C02.Inv c' := by obtain ⟨_, _, _, h⟩ := h; exact h

theorem Reports.trans {a b c : Conn} (h1 : Reports a b) (h2 : Reports b c) : Reports a c := by
  obtain ⟨vs, s1, s2, _⟩ := h1
  obtain ⟨ws, t1, t2, t3⟩ := h2
  exact ⟨vs ++ ws, by rw [t1, s1, s2, expected_append, List.append_assoc], by rw [t2, s2, List.length_append]; push_cast; omega, t3⟩

theorem receivedPacket_reports (e : Env) (c : Conn) (bits : Bits) (hinv : C02.Inv c) : Reports c (c.receivedPacket e bits).1 := by
  rcases receivedPacket_cases e c bits with ⟨r, _, h'⟩ | ⟨_, _, _, _, h'⟩ | ⟨h, rest, hd, hpos, _⟩
  · rw [h']; exact Reports.silent hinv (markClose_adds _ _ _) (CntSame.of_sameN (markClose_sameN _ _))
  · rw [h']; exact Reports.silent hinv (Adds.refl _ _) (CntSame.refl _)
  · -- the notification update reports; the bunch loop and the closing `packet_notify_ack_seq` are silent
    have r1 : Reports c _ := notifyUpdate_statuses e { c with inPacketId := c.inPacketId + c.notify.deltaSeq h } h hinv (decode_acked_range bits h rest hd)
    obtain ⟨c3, skip3, ⟨k3, a3⟩, heq⟩ := receivedPacket_accept_loop (R := fun c c' => SameN c c' ∧ Adds NoStat c c')
      (fun fuel c bits skip => ⟨bunchLoop_sameN fuel c bits skip, bunchLoop_adds noStat_recvPred fuel c bits skip⟩) e c bits h rest hd hpos
    rw [heq]
    exact r1.trans (Reports.silent r1.inv a3 ⟨k3.lastNotified, by rw [← k3.notify]; exact (ackSeq_keeps _ _ _).2.2⟩)

theorem apply_reports (e : Env) (c : Conn) (op : C18.Op) (hinv : C02.Inv c) : Reports c (C18.apply e c op) := by
  have hm : ∀ ev, isMem ev → NoStat ev := fun ev h => by cases ev <;> first | rfl | cases h
  obtain ⟨qsend, qflush, qupdate⟩ := quiet_ops CntSame.refl CntSame.trans CntSame.of_keeps CntSame.of_sameN e c
  cases op with
  | send b => exact Reports.silent hinv (sendBunch_adds e (fun _ => rfl) hm c b) (qsend b)
  | flush => exact Reports.silent hinv ((adds_sclosed e (fun _ => rfl)).flush c) qflush
  | recv bits => exact receivedPacket_reports e c bits hinv
  | update => exact Reports.silent hinv (update_adds e hm (fun _ => rfl) (fun _ => rfl) c) qupdate

/-- **every history**: everything reported since the start is one run of verdicts that continues the counter the history started from -/
theorem run_reports (ops : List (Env × C18.Op)) : ∀ c : Conn, C02.Inv c → Reports c (C18.run c ops) :=
  C18.run_rel (R := fun c c' => C02.Inv c → Reports c c') (fun _ h => Reports.silent h (Adds.refl _ _) (CntSame.refl _))
    (fun h1 h2 h => (h1 h).trans (h2 (h1 h).inv)) apply_reports ops

/-- **one verdict per packet, in increasing order, without gaps** — for a connection started by `utcp_sequence_init i o` (what the handshake does) and any
history whatsoever: the `k`-th delivery status the application ever received (oldest first) is for packet `o + k`; so no packet gets two verdicts, none is
skipped, and the order is the order of the packet ids -/
theorem statuses_consecutive (ops : List (Env × C18.Op)) (i o : Int) (k : Nat)
    (hk : k < (statuses (C18.run (({} : Conn).seqInit i o) ops).log).reverse.length) :
    ((statuses (C18.run (({} : Conn).seqInit i o) ops).log).reverse)[k].1 = o + (k : Int) := by
  obtain ⟨vs, s1, _, _⟩ := run_reports ops (({} : Conn).seqInit i o) (seqInit_inv _ i o)
  have h0 : statuses (({} : Conn).seqInit i o).log = [] := rfl
  rw [h0, List.append_nil] at s1
  have hl : (({} : Conn).seqInit i o).lastNotified = o - 1 := rfl
  rw [hl] at s1
  have := expected_ids vs (o - 1) k (by rw [← s1]; exact hk)
  simp only [s1] at hk ⊢
  rw [this, Int.sub_add_cancel]

/-- the number of verdicts reported so far is what the counter of reported packets (`LastNotifiedPacketId`) says -/
theorem statuses_count (ops : List (Env × C18.Op)) (i o : Int) :
    ((statuses (C18.run (({} : Conn).seqInit i o) ops).log).length : Int) = (C18.run (({} : Conn).seqInit i o) ops).lastNotified - (o - 1) := by
  obtain ⟨vs, s1, s2, _⟩ := run_reports ops (({} : Conn).seqInit i o) (seqInit_inv _ i o)
  have h0 : statuses (({} : Conn).seqInit i o).log = [] := rfl
  have hl : (({} : Conn).seqInit i o).lastNotified = o - 1 := rfl
  rw [s1, h0, List.append_nil, expected_length, s2, hl]
  omega

/-! non-vacuity: a fresh connection satisfies the invariant the histories start from -/
example : C02.Inv (({} : Conn).seqInit 100 200) := seqInit_inv _ _ _

end Utcp.Props.C02Hist
