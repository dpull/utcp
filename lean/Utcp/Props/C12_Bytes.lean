import Utcp.Props.C12_Write
import Utcp.Props.C12_Read
import Utcp.Lemmas.ByteCopySpec
/-!
# C12 at the level of the byte array

The byte-array functions of `Utcp/ByteBuf.lean` (the model of `bit_buffer.c` statement by statement, partial memory) refine the bit-level
primitives of `Utcp/BitIO.lean`, for which `Lemmas/BitIO.lean` proves the round trips: the writers in `Props/C12_Write.lean`, the readers in
`Props/C12_Read.lean`.  "Refines" includes: the result is `some _`, i.e. no byte outside the arrays is read or written.  Here: the copier, closing a
buffer and opening the datagram for reading, and the round trip of any sequence of calls.
-/
namespace Utcp.BB

/-- **the bit-run copier `appBitsCpy`**, for every destination bit offset, source bit offset and count (no bound), on arrays that hold exactly the
bytes the two bit ranges occupy (or more): no access faults (so no byte outside either array is read or written, in particular none beyond the
byte of the last valid source bit), the destination keeps its length, and afterwards it is the old destination with bits `[db, db+n)`
replaced by source bits `[sb, sb+n)` - every other bit is as before.  Covers the `<= 8` path, the lead-in for both alignments, the byte loop and
the lead-out with and without its extra source read. -/
theorem bit_run_copier (dest src : Mem) (hdk : BytesOK dest) (hsk : BytesOK src) (db sb n : Nat)
    (hdl : db + n ≤ 8 * dest.length) (hsl : sb + n ≤ 8 * src.length) :
    ∃ dest', appBitsCpy dest db src sb n = some dest' ∧ dest'.length = dest.length ∧ BytesOK dest' ∧
      ∀ k, bit dest' k = if db ≤ k ∧ k < db + n then bit src (sb + (k - db)) else bit dest k :=
  appBitsCpy_upd dest src hdk hsk db sb n hdl hsl

/-- non-vacuity / sanity: an unaligned 13-bit copy between two 3-byte arrays, computed by the model -/
example : appBitsCpy [0xFF, 0x00, 0xFF] 5 [0xA5, 0x3C, 0x7E] 3 13 = some [0x9F, 0xF2, 0xFC] := by decide

/-- **closing a write buffer and opening it for reading**: after `bitbuf_write_end` the first `num/8 + 1` bytes are the datagram; `bitbuf_read_init`
over exactly those bytes yields a read buffer whose remaining bits are the bits that were written -/
theorem finish_then_init (b : Buf) (hb : WB b) (hfit : b.num + 1 ≤ b.size) :
    ∃ b1, writeEnd b = some (true, b1) ∧ b1.num = b.num + 1 ∧
      ∃ rb, readInit (b1.mem.take ((b1.num + 7) / 8)) = some (true, rb) ∧ RB rb ∧ rb.mem.length = (rb.size + 8) / 8 ∧ rest rb = content b := by
  obtain ⟨b1, h1, hwb1, hsz1, hc1⟩ := (writeBit_refines b hb 1).1 hfit
  have hnum1 : b1.num = b.num + 1 := num_of_content_append hc1
  refine ⟨b1, h1, hnum1, ?_⟩
  -- the datagram: `L` bytes, the last one holds bit `b.num`
  generalize hL : b.num / 8 + 1 = L
  have hlt : b.num < 8 * L := hL ▸ Nat.lt_mul_div_succ _ (by decide)
  have hlenT : (b1.mem.take L).length = L := by
    -- `b.num + 1 = b1.num ≤ b1.size = 8 * b1.mem.length`
    have hsz := hwb1.size
    have hnum := hwb1.num
    rw [List.length_take, Nat.min_eq_left (by omega)]
  rw [hnum1, Nat.add_assoc, Nat.add_div_right _ (by decide), hL]
  -- the closed buffer: the old content, then the terminator, then zeros
  unfold content at hc1
  rw [hnum1, bitsFrom_append] at hc1
  obtain ⟨hold, hterm⟩ := List.append_inj hc1 (by rw [bitsFrom_length, bitsFrom_length])
  have hterm : bit b1.mem b.num = true := by simpa [bitsFrom] using hterm
  have hsp := readInit_spec (b1.mem.take L) (bytesOK_take _ hwb1.bytes _) b.num (by rw [hlenT, hL])
    (by rw [bit_take, if_pos hlt, hterm])
    (fun k hk => by
      rw [bit_take]
      split
      · exact hwb1.zero k (hnum1 ▸ hk)
      · rfl)
  refine ⟨_, hsp, ⟨bytesOK_take _ hwb1.bytes _, by rw [hlenT]; exact Nat.le_of_lt hlt, Nat.zero_le _⟩,
    by rw [hlenT, Nat.add_div_right _ (by decide), hL], ?_⟩
  unfold rest content
  simp only [Nat.sub_zero]
  rw [← hold]
  exact bitsFrom_congr _ _ _ _ fun k _ hk => by rw [bit_take, if_pos (Nat.lt_trans (Nat.zero_add b.num ▸ hk) hlt)]

/-- the matching read, compared with what was written -/
def LOp.readBack : LOp → Buf → Option (Bool × Buf)
  | .bit v, b => (readBit b).bind fun (ok, x, b') => some (ok && (decide (x = 1) == decide (v % 256 ≠ 0)), b')
  | .run data n, b => (readBits b (List.replicate ((n + 7) / 8) 0) n).bind fun (ok, out, b') => some (ok && (bitsFrom out 0 n == bitsFrom data 0 n), b')
  | .bytes data size, b => (readBytes b (List.replicate size 0) size).bind fun (ok, out, b') =>
      some (ok && (bitsFrom out 0 (size * 8) == bitsFrom data 0 (size * 8)), b')
  | .int v mx, b => (readInt b mx).bind fun (ok, x, b') => some (ok && x == v, b')
  | .packed v, b => (readIntPacked b).bind fun (ok, x, b') => some (ok && x == v, b')
  | .wrapped v k, b => (readInt b (2 ^ k)).bind fun (ok, x, b') => some (ok && x == v % 2 ^ k, b')
  | .word v, b => (readU32 b).bind fun (ok, x, b') => some (ok && x == v, b')

def readAllL : List LOp → Buf → Option (Bool × Buf)
  | [], b => some (true, b)
  | o :: os, b => (o.readBack b).bind fun (ok, b') => if ok then readAllL os b' else some (false, b')

/-- a refinement statement whose bit-level side succeeded: the byte-level call returned true, that value and that remainder -/
theorem ok_of_ite {α} {ok : Bool} {v v0 : α} {r r0 : Bits} (h : RR.ok v0 r0 = if ok then RR.ok v r else RR.fail r) :
    ok = true ∧ v = v0 ∧ r = r0 := by
  cases ok
  · simp at h
  · simp only [if_true, RR.ok.injEq] at h
    exact ⟨rfl, h.1.symm, h.2.symm⟩

/-- the bit-level round trips of `Lemmas/BitIO.lean`, transported: a read buffer whose remaining bits start with what a call wrote -/
theorem LOp.readBack_spec (o : LOp) (ho : o.ok) (rb : Buf) (hrb : RB rb) (r : Bits) (hrest : rest rb = o.bits ++ r) :
    ∃ rb', o.readBack rb = some (true, rb') ∧ RB rb' ∧ rest rb' = r := by
  cases o with
  | bit v =>
    obtain ⟨ok, x, b', h, hrb', _, _, hS, _⟩ := readBit_refines rb hrb
    rw [hrest] at hS
    obtain ⟨rfl, hx, hr⟩ := ok_of_ite (v0 := decide (v % 256 ≠ 0)) (r0 := r) hS
    exact ⟨b', by simp [LOp.readBack, h, hx], hrb', hr⟩
  | run data n =>
    obtain ⟨ok, out', b', h, hrb', _, _, _, _, hS, _⟩ := readBits_refines rb hrb (List.replicate ((n + 7) / 8) 0) (bytesOK_replicate _) n (by simp)
    rw [hrest, show (LOp.run data n).bits = bitsFrom data 0 n from rfl, Utcp.readBits_append' n _ r (bitsFrom_length ..)] at hS
    obtain ⟨rfl, hx, hr⟩ := ok_of_ite hS
    exact ⟨b', by simp [LOp.readBack, h, hx], hrb', hr⟩
  | bytes data size =>
    obtain ⟨ok, out', b', h, hrb', _, _, _, _, hS, _⟩ := readBits_refines rb hrb (List.replicate size 0) (bytesOK_replicate _) (size * 8)
      (by rw [List.length_replicate, Nat.mul_comm, Nat.mul_add_div (by decide)]; exact Nat.le_refl _)
    rw [hrest, show (LOp.bytes data size).bits = bitsFrom data 0 (size * 8) from rfl, Utcp.readBits_append' _ _ r (bitsFrom_length ..)] at hS
    obtain ⟨rfl, hx, hr⟩ := ok_of_ite hS
    exact ⟨b', by simp [LOp.readBack, readBytes, h, hx], hrb', hr⟩
  | int v mx =>
    obtain ⟨ok, x, b', h, hrb', _, _, hS, _⟩ := readInt_refines rb hrb mx
    rw [hrest, show (LOp.int v mx).bits = Utcp.writeInt v mx from rfl, Utcp.readInt_writeInt v mx r ho.1 ho.2] at hS
    obtain ⟨rfl, hx, hr⟩ := ok_of_ite hS
    exact ⟨b', by simp [LOp.readBack, h, hx], hrb', hr⟩
  | packed v =>
    obtain ⟨ok, x, b', h, hrb', _, _, hS⟩ := readIntPacked_refines rb hrb
    rw [hrest, show (LOp.packed v).bits = Utcp.writeIntPacked v from rfl, Utcp.readIntPacked_write v r, Nat.mod_eq_of_lt ho] at hS
    obtain ⟨rfl, hx, hr⟩ := ok_of_ite hS
    exact ⟨b', by simp [LOp.readBack, h, hx], hrb', hr⟩
  | wrapped v k =>
    obtain ⟨ok, x, b', h, hrb', _, _, hS, _⟩ := readInt_refines rb hrb (2 ^ k)
    rw [hrest, show (LOp.wrapped v k).bits = Utcp.writeIntWrapped v (2 ^ k) from rfl, Utcp.readInt_wrapped_pow2 k v r ho] at hS
    obtain ⟨rfl, hx, hr⟩ := ok_of_ite hS
    exact ⟨b', by simp [LOp.readBack, h, hx], hrb', hr⟩
  | word v =>
    obtain ⟨ok, x, b', h, hrb', _, _, hS⟩ := readU32_refines rb hrb
    rw [hrest, show (LOp.word v).bits = Utcp.writeU32 v from rfl, Utcp.readU32_write, Nat.mod_eq_of_lt ho] at hS
    obtain ⟨rfl, hx, hr⟩ := ok_of_ite hS
    exact ⟨b', by simp [LOp.readBack, h, hx], hrb', hr⟩

theorem readAllL_spec : ∀ (ops : List LOp) (rb : Buf) (r : Bits), (∀ o ∈ ops, o.ok) → RB rb → rest rb = ops.flatMap LOp.bits ++ r →
    ∃ rb', readAllL ops rb = some (true, rb') ∧ RB rb' ∧ rest rb' = r := by
  intro ops
  induction ops with
  | nil => intro rb r _ hrb h; exact ⟨rb, rfl, hrb, by simpa using h⟩
  | cons o os ih =>
    intro rb r hok hrb h
    simp only [List.flatMap_cons, List.append_assoc] at h
    obtain ⟨rb1, h1, hrb1, hr1⟩ := o.readBack_spec (hok o (by simp)) rb hrb _ h
    obtain ⟨rb2, h2, hrb2, hr2⟩ := ih rb1 r (fun x hx => hok x (by simp [hx])) hrb1 hr1
    exact ⟨rb2, by simp only [readAllL, h1, Option.bind_some, if_true]; exact h2, hrb2, hr2⟩

/-- **C12 at the level of the byte array**: into a zeroed buffer of `cap` bytes, every sequence of in-range writes for which there is room (plus one bit
for the terminator) succeeds call by call; closing it, taking exactly the bytes that hold valid bits as the datagram, and opening that for reading,
the matching sequence of reads succeeds call by call, returns what was written, and ends with nothing left - and on the way no byte outside any of the
arrays involved was read or written (every step is `some _` in a model where such an access is `none`). -/
theorem byte_level_round_trip (cap : Nat) (ops : List LOp) (hok : ∀ o ∈ ops, o.ok) (hfit : needAll ops + 1 ≤ 8 * cap) :
    ∃ b1 b2 rb rb', writeAll ops ⟨List.replicate cap 0, 8 * cap, 0⟩ = some (true, b1) ∧ writeEnd b1 = some (true, b2) ∧
      readInit (b2.mem.take ((b2.num + 7) / 8)) = some (true, rb) ∧ readAllL ops rb = some (true, rb') ∧ rest rb' = [] ∧
      content b1 = ops.flatMap LOp.bits := by
  obtain ⟨b1, h1, hwb1, hs1, hc1, hn1⟩ := writeAll_spec ops ⟨List.replicate cap 0, 8 * cap, 0⟩ hok (wb_zeroed cap)
    (show 0 + needAll ops ≤ 8 * cap from (Nat.zero_add _).symm ▸ Nat.le_of_succ_le hfit)
  -- the buffer was empty
  have hc1 : content b1 = ops.flatMap LOp.bits := hc1
  have hn1 : b1.num ≤ needAll ops := Nat.zero_add (needAll ops) ▸ hn1
  obtain ⟨b2, h2, _, rb, h3, hrb, _, hr⟩ := finish_then_init b1 hwb1 (hs1 ▸ Nat.le_trans (Nat.succ_le_succ hn1) hfit)
  obtain ⟨rb', h4, _, hr4⟩ := readAllL_spec ops rb [] hok hrb (by rw [hr, hc1, List.append_nil])
  exact ⟨b1, b2, rb, rb', h1, h2, h3, h4, hr4, hc1⟩

/-- non-vacuity: a mixed script at an unaligned cursor (88 bits + terminator) in a 12-byte buffer meets the hypotheses -/
example : (∀ o ∈ [LOp.bit 1, .int 5 10, .packed 300, .run [0xA5, 0x3C] 13, .wrapped 77 6, .word 305419896, .bytes [1, 2] 2], o.ok) ∧
    needAll [LOp.bit 1, .int 5 10, .packed 300, .run [0xA5, 0x3C] 13, .wrapped 77 6, .word 305419896, .bytes [1, 2] 2] + 1 ≤ 8 * 12 := by
  refine ⟨?_, by decide⟩
  intro o ho
  simp only [List.mem_cons, List.not_mem_nil, or_false] at ho
  rcases ho with h | h | h | h | h | h | h <;> subst h <;> simp [LOp.ok, BytesOK]
end Utcp.BB
