import Utcp.Lemmas.ByteBits
import Utcp.Lemmas.ByteCopySpec
/-!
# C12 at the level of the byte array: the writers

Each `bitbuf_write_*` of `Utcp/ByteBuf.lean` (the model of `bit_buffer.c` statement by statement, partial memory), on a zeroed buffer, appends exactly the
bits the bit-level writer of `Utcp/BitIO.lean` produces, or refuses and touches nothing (`Appends`).  The result is always `some _`: no byte outside the
arrays is read or written.
-/
namespace Utcp.BB

theorem appBitsCpy_store (data : Mem) (hd : BytesOK data) (n : Nat) (hdata : n ≤ 8 * data.length) (m : Mem) (pos : Nat) (hm : BytesOK m)
    (hfit : pos + n ≤ 8 * m.length) :
    ∃ m', appBitsCpy m pos data 0 n = some m' ∧ Writes m m' pos (bitsFrom data 0 n) := by
  obtain ⟨m', h, hu⟩ := appBitsCpy_upd m data hm hd pos 0 n hfit ((Nat.zero_add n).symm ▸ hdata)
  exact ⟨m', h, (hu.congr fun k h1 h2 => by rw [srcAt, bitsFrom_getD _ _ _ _ (Nat.sub_lt_left_of_lt_add h1 h2)]).cast rfl (by rw [bitsFrom_length])⟩

/-- `bitbuf_write_bit`: one bit appended, or - buffer full - failure with everything untouched -/
theorem writeBit_refines (b : Buf) (hb : WB b) (v : Nat) :
    (b.num + 1 ≤ b.size → ∃ b', writeBit b v = some (true, b') ∧ WB b' ∧ b'.size = b.size ∧ content b' = content b ++ [decide (v % 256 ≠ 0)]) ∧
    (¬ b.num + 1 ≤ b.size → writeBit b v = some (false, b)) :=
  appends_of_store (fun b => writeBit b v) 1 1 [decide (v % 256 ≠ 0)] rfl (Nat.le_refl 1) (fun m pos => if decide (v % 256 ≠ 0) then orBit m pos else some m)
    (fun b => by unfold writeBit; by_cases hv : v % 256 ≠ 0 <;> simp [hv]) (fun m pos hm hz => bit_store _ m pos hm (hz pos (Nat.le_refl _))) b hb

/-- `bitbuf_write_bits`: a run of `n` bits taken from the start of `data`, any length, any cursor alignment -/
theorem writeBits_refines (b : Buf) (hb : WB b) (data : Mem) (hd : BytesOK data) (n : Nat) (hdata : n ≤ 8 * data.length) :
    (b.num + n ≤ b.size → ∃ b', writeBits b data n = some (true, b') ∧ WB b' ∧ b'.size = b.size ∧ content b' = content b ++ bitsFrom data 0 n) ∧
    (¬ b.num + n ≤ b.size → writeBits b data n = some (false, b)) := by
  by_cases h1 : n = 1
  · subst h1
    have hbit0 : (data.getD 0 0 &&& 1 ≠ 0) ↔ bit data 0 = true := and_shl_one_ne (data.getD 0 0) 0
    refine appends_of_store (fun b => writeBits b data 1) 1 1 [bit data 0] rfl (Nat.le_refl 1) (fun m pos => if bit data 0 then orBit m pos else some m)
      (fun b => ?_) (fun m pos hm hz => bit_store _ m pos hm (hz pos (Nat.le_refl _))) b hb
    unfold writeBits
    rw [if_pos rfl, rd_of_lt _ _ (by omega)]
    simp only [Option.bind_some]
    cases hv : bit data 0
    · rw [if_neg (fun h : data.getD 0 0 &&& 1 ≠ 0 => Bool.noConfusion (hv ▸ hbit0.mp h))]; rfl
    · rw [if_pos (hbit0.mpr hv)]; rfl
  · exact appends_of_store (fun b => writeBits b data n) n n (bitsFrom data 0 n) (bitsFrom_length _ _ _) (Nat.le_refl _) (fun m pos => appBitsCpy m pos data 0 n)
      (fun b => by unfold writeBits; rw [if_neg h1]) (fun m pos hm _ hfit => appBitsCpy_store data hd n hdata m pos hm hfit) b hb

theorem writeBytes_refines (b : Buf) (hb : WB b) (data : Mem) (hd : BytesOK data) (size : Nat) (hdata : size ≤ data.length) :
    (b.num + size * 8 ≤ b.size → ∃ b', writeBytes b data size = some (true, b') ∧ WB b' ∧ b'.size = b.size ∧ content b' = content b ++ bitsFrom data 0 (size * 8)) ∧
    (¬ b.num + size * 8 ≤ b.size → writeBytes b data size = some (false, b)) :=
  appends_of_store (fun b => writeBytes b data size) (size * 8) (size * 8) (bitsFrom data 0 (size * 8)) (bitsFrom_length _ _ _) (Nat.le_refl _)
    (fun m pos => appBitsCpy m pos data 0 (size * 8)) (fun _ => rfl) (fun m pos hm _ hfit => appBitsCpy_store data hd (size * 8) (Nat.mul_comm size 8 ▸ Nat.mul_le_mul_left 8 hdata) m pos hm hfit) b hb

theorem addBit_eq_orBit (m : Mem) (hm : BytesOK m) (pos : Nat) (hz : ∀ k, pos ≤ k → bit m k = false) : addBit m pos = orBit m pos := by
  unfold addBit orBit
  cases hr : rd m (pos / 8) with
  | none => rfl
  | some x =>
    simp only [Option.bind_some]
    have hx : x = m.getD (pos / 8) 0 := by
      unfold rd at hr; simp [List.getD, hr]
    have hlt : x < 2 ^ (pos % 8) := by
      apply Nat.lt_pow_two_of_testBit
      intro i hi
      by_cases h8 : i < 8
      · have := hz (8 * (pos / 8) + i) (Nat.le_trans (Nat.le_of_eq (Nat.div_add_mod pos 8).symm) (Nat.add_le_add_left hi _))
        rw [bit_at _ _ _ h8] at this
        rw [hx]; exact this
      · rw [hx]; exact testBit_byte_hi _ _ (getD_lt_256 m hm _) (Nat.le_of_not_lt h8)
    rw [Nat.one_shiftLeft, or_two_pow_of_lt x _ hlt]

theorem and_two_pow_ne (v i : Nat) : (v &&& 2 ^ i ≠ 0) ↔ v / 2 ^ i % 2 = 1 := by
  have h := and_shl_one_ne v i
  rw [Nat.one_shiftLeft] at h
  rw [h, Nat.testBit_eq_decide_div_mod_eq]
  simp

/-- the `+=` loop of `bitbuf_write_int` / `bitbuf_write_int_wrapped` on a zeroed buffer writes exactly the bits of the bit-level `wInt` -/
theorem wIntLoop_spec (v mx : Nat) : ∀ (fuel : Nat) (m : Mem) (i nv pos : Nat), BytesOK m → (∀ k, pos ≤ k → bit m k = false) →
    pos + (Utcp.wInt fuel v mx (2 ^ i) nv).length ≤ 8 * m.length →
    ∃ m', wIntLoop fuel m v mx (2 ^ i) nv pos = some (m', pos + (Utcp.wInt fuel v mx (2 ^ i) nv).length) ∧
      Writes m m' pos (Utcp.wInt fuel v mx (2 ^ i) nv) := by
  intro fuel
  induction fuel with
  | zero => intro m i nv pos hm _ _; exact ⟨m, rfl, Writes.nil hm pos⟩
  | succ f ih =>
    intro m i nv pos hm hz hfit
    have epow : 2 ^ i * 2 = 2 ^ (i + 1) := (Nat.pow_succ ..).symm
    unfold wIntLoop
    by_cases hc : nv + 2 ^ i < mx ∧ 2 ^ i < 2 ^ 32
    · rw [if_pos (show nv + 2 ^ i < mx ∧ 2 ^ i < 4294967296 from hc)]
      -- both models look at bit `i` of `v`; a one is stored with `+=`, which is `|=` on zeros
      generalize hx : decide (v / 2 ^ i % 2 = 1) = x
      have hw : Utcp.wInt (f + 1) v mx (2 ^ i) nv = [x] ++ Utcp.wInt f v mx (2 ^ (i + 1)) (if x then nv + 2 ^ i else nv) := by
        rw [Utcp.wInt, if_pos hc, epow, ← hx]
        by_cases hb : v / 2 ^ i % 2 = 1 <;> simp [hb]
      rw [hw] at hfit ⊢
      rw [List.length_append, List.length_singleton, ← Nat.add_assoc] at hfit ⊢
      obtain ⟨m1, hs1, hw1⟩ := bit_store x m pos hm (hz pos (Nat.le_refl _)) (Nat.le_trans (Nat.le_add_right _ _) hfit)
      obtain ⟨m2, hs2, hw2⟩ := ih m1 (i + 1) (if x then nv + 2 ^ i else nv) (pos + 1) hw1.2.1 (hw1.zero_above hz) (by rw [hw1.1]; exact hfit)
      refine ⟨m2, ?_, hw1.append hw2⟩
      rw [← hs2, epow]
      cases x
      · rw [if_neg (fun h => of_decide_eq_false hx ((and_two_pow_ne v i).mp h)), Option.some.inj hs1]; rfl
      · rw [if_pos ((and_two_pow_ne v i).mpr (of_decide_eq_true hx)), addBit_eq_orBit m hm pos hz, show orBit m pos = some m1 from hs1]; rfl
    · rw [if_neg (show ¬ (nv + 2 ^ i < mx ∧ 2 ^ i < 4294967296) from hc)]
      rw [Utcp.wInt_stop hc]
      exact ⟨m, rfl, Writes.nil hm pos⟩

theorem le_two_pow_ceilLogTwo (mx : Nat) : mx ≤ 2 ^ ceilLogTwo mx := by
  unfold ceilLogTwo
  by_cases h0 : mx = 0
  · subst h0; simp
  · rw [if_neg h0]
    by_cases h1 : mx = 1
    · subst h1; simp
    · rw [if_neg h1]
      have := @Nat.lt_log2_self (mx - 1)
      omega

/-- `bitbuf_write_int` / `bitbuf_write_int_wrapped` after their checks: the UE early-stop encoding, written with `+=` into the zeroed part -/
theorem wInt_appends (wrt : Buf → Option (Bool × Buf)) (v mx : Nat)
    (hshape : ∀ b, wrt b = if !allowOpt b (ceilLogTwo mx) then some (false, b)
      else (wIntLoop 33 b.mem v mx 1 0 b.num).bind fun (m, pos) => some (true, { b with mem := m, num := pos })) :
    Appends wrt (ceilLogTwo mx) (Utcp.writeInt v mx) :=
  appends_of_cursor_store wrt _ _ _ rfl (Utcp.writeInt_length_le v mx _ (le_two_pow_ceilLogTwo mx)) (fun m pos => wIntLoop 33 m v mx 1 0 pos) hshape
    (fun m pos hm hz hfit => wIntLoop_spec v mx 33 m 0 0 pos hm hz hfit)

/-- `bitbuf_write_int`: refused when the value is out of range or `ceil(log2 max)` bits do not fit (everything untouched); otherwise the bit-level encoding is appended -/
theorem writeInt_refines (b : Buf) (hb : WB b) (v mx : Nat) (h32 : mx ≤ 2 ^ 32) :
    (v < mx → b.num + ceilLogTwo mx ≤ b.size → ∃ b', writeInt b v mx = some (true, b') ∧ WB b' ∧ b'.size = b.size ∧ content b' = content b ++ Utcp.writeInt v mx) ∧
    ((mx ≤ v ∨ ¬ b.num + ceilLogTwo mx ≤ b.size) → writeInt b v mx = some (false, b)) := by
  by_cases hv : v < mx
  · have := wInt_appends (fun b => writeInt b v mx) v mx (fun b => by unfold writeInt; rw [if_neg (Nat.not_le.mpr hv)]) b hb
    exact ⟨fun _ => this.1, fun h => this.2 (h.resolve_left (Nat.not_le.mpr hv))⟩
  · exact ⟨fun h => absurd h hv, fun _ => by unfold writeInt; rw [if_pos (Nat.le_of_not_lt hv)]⟩

/-- `bitbuf_write_int_wrapped`: no range check - the value is taken as the loop takes it -/
theorem writeIntWrapped_refines (b : Buf) (hb : WB b) (v mx : Nat) (h32 : mx ≤ 2 ^ 32) :
    (b.num + ceilLogTwo mx ≤ b.size → ∃ b', writeIntWrapped b v mx = some (true, b') ∧ WB b' ∧ b'.size = b.size ∧ content b' = content b ++ Utcp.writeIntWrapped v mx) ∧
    (¬ b.num + ceilLogTwo mx ≤ b.size → writeIntWrapped b v mx = some (false, b)) :=
  wInt_appends (fun b => writeIntWrapped b v mx) v mx (fun _ => rfl) b hb

/-- one step of the second loop of `bitbuf_write_int_packed`: the byte group `w` stored at bit `u` of byte `di`, over two bytes unless `u = 0` -/
def packedStep (m : Mem) (w di u : Nat) : Option Mem :=
  (rd m di).bind fun x0 =>
    (wr m di ((x0 &&& ((1 <<< u) - 1)) ||| ((w <<< u) % 256))).bind fun m1 =>
    if u ≠ 0 then
      (rd m1 (di + 1)).bind fun x1 => wr m1 (di + 1) ((x1 &&& (255 ^^^ ((1 <<< u) - 1))) ||| ((w >>> (8 - u)) % 256))
    else some m1

theorem packedStore_cons (w : Nat) (ws : List Nat) (m : Mem) (di u : Nat) :
    packedStore (w :: ws) m di u = (packedStep m w di u).bind fun m' => packedStore ws m' (di + 1) u := by
  rw [packedStore]
  unfold packedStep
  cases rd m di with
  | none => rfl
  | some x0 =>
    simp only [Option.bind_some]
    cases wr m di ((x0 &&& ((1 <<< u) - 1)) ||| ((w <<< u) % 256)) with
    | none => rfl
    | some m1 =>
      simp only [Option.bind_some]
      by_cases hu : u ≠ 0
      · simp only [if_pos hu]
        cases rd m1 (di + 1) with
        | none => rfl
        | some x1 =>
          simp only [Option.bind_some]
      · simp only [if_neg hu, Option.bind_some]

/-- the byte `w` lands on bits `[8*di+u, 8*di+u+8)`, whatever was there; nothing else changes -/
theorem packedStep_spec (m : Mem) (hm : BytesOK m) (w di u : Nat) (hw : w < 256) (hu : u < 8) (hfit : 8 * di + u + 8 ≤ 8 * m.length) :
    ∃ m', packedStep m w di u = some m' ∧ Writes m m' (8 * di + u) (natToBits w 8) := by
  unfold packedStep
  show ∃ m', _ = some m' ∧ Upd m m' (8 * di + u) (8 * di + u + (natToBits w 8).length) (fun k => (natToBits w 8).getD (k - (8 * di + u)) false)
  -- bit `i` of `w` belongs at position `8 * di + u + i`
  have hf : ∀ i, (natToBits w 8).getD (8 * di + u + i - (8 * di + u)) false = (decide (i < 8) && w.testBit i) := fun i => by
    rw [Nat.add_sub_cancel_left, natToBits_getD]
  rw [natToBits_length]
  obtain ⟨hdi, hdi1⟩ := window_bytes m.length di u hfit
  rw [rd_of_lt _ _ hdi]
  simp only [Option.bind_some]
  -- the low byte: the old bits below `u`, the low `8 - u` bits of `w` from `u` up
  obtain ⟨m1, hw1, hu1⟩ := wr_upd m hm di ((m.getD di 0 &&& ((1 <<< u) - 1)) ||| ((w <<< u) % 256)) u 8
    (fun k => (natToBits w 8).getD (k - (8 * di + u)) false) hdi (Nat.le_refl 8) (fun j hj => by
      rw [Nat.testBit_or, Nat.testBit_and, testBit_mask0, testBit_mod256]
      by_cases h : u ≤ j
      · obtain ⟨i, rfl⟩ := Nat.exists_eq_add_of_le h
        have hi : i < 8 := Nat.lt_of_le_of_lt (Nat.le_add_left i u) hj
        rw [if_pos ⟨h, hj⟩, ← Nat.add_assoc, hf, testBit_shl_add]
        simp [hj, hi, Nat.not_lt.mpr h]
      · rw [if_neg (fun hr => h hr.1), testBit_shl_lt _ _ _ (Nat.lt_of_not_le h)]
        simp [Nat.lt_of_not_le h]) rfl rfl
  rw [hw1]
  simp only [Option.bind_some]
  by_cases hu0 : u = 0
  · subst hu0
    exact ⟨m1, by simp, hu1⟩
  · have hdi1 : di + 1 < m1.length := hu1.1 ▸ hdi1 hu0
    rw [if_pos hu0, rd_of_lt _ _ hdi1]
    simp only [Option.bind_some]
    -- the high byte: the remaining `u` bits of `w` below `u`, the old bits above
    obtain ⟨m2, hw2, hu2⟩ := wr_upd m1 hu1.2.1 (di + 1) ((m1.getD (di + 1) 0 &&& (255 ^^^ ((1 <<< u) - 1))) ||| ((w >>> (8 - u)) % 256)) 0 u
      (fun k => (natToBits w 8).getD (k - (8 * di + u)) false) hdi1 (Nat.le_of_lt hu) (fun j hj => by
        have e255 : (255 : Nat).testBit j = true := by
          have : (255 : Nat) = 2 ^ 8 - 1 := rfl
          rw [this, Nat.testBit_two_pow_sub_one]; simp [hj]
        rw [Nat.testBit_or, Nat.testBit_and, Nat.testBit_xor, testBit_mask0, testBit_mod256, Nat.testBit_shiftRight, e255, next_byte_pos di u j hu, hf]
        -- bit `j` of this byte is bit `8 - u + j` of `w`, which has a bit there iff `j < u`
        have e8 : 8 - u + u = 8 := Nat.sub_add_cancel (Nat.le_of_lt hu)
        by_cases h : j < u
        · have e' : 8 - u + j < 8 := Nat.lt_of_lt_of_eq (Nat.add_lt_add_left h _) e8
          simp [hj, h, e']
        · have e' : 8 ≤ 8 - u + j := Nat.le_trans (Nat.le_of_eq e8.symm) (Nat.add_le_add_left (Nat.le_of_not_lt h) _)
          simp [hj, h, testBit_byte_hi w (8 - u + j) hw e'])
      (Nat.mul_succ 8 di).symm (b := 8 * di + u + 8) (by rw [Nat.mul_succ, Nat.add_right_comm])
    exact ⟨m2, hw2, hu1.trans hu2 (Nat.add_le_add_left (Nat.le_of_lt hu) _) (Nat.add_le_add_right (Nat.le_add_right _ u) 8)⟩

theorem packedStore_spec (u : Nat) (hu : u < 8) : ∀ (ws : List Nat) (m : Mem) (di : Nat), BytesOK m → (∀ w ∈ ws, w < 256) →
    8 * di + u + 8 * ws.length ≤ 8 * m.length →
    ∃ m', packedStore ws m di u = some m' ∧ Writes m m' (8 * di + u) (wordsBits ws) := by
  intro ws
  induction ws with
  | nil => intro m di hm _ _; exact ⟨m, rfl, Writes.nil hm _⟩
  | cons w ws ih =>
    intro m di hm hws hfit
    -- the first group takes eight bits; behind it the cursor stands at bit `u` of byte `di + 1`
    have e8 : 8 * (di + 1) + u = 8 * di + u + 8 := by rw [Nat.mul_succ, Nat.add_right_comm]
    have hfit' : 8 * (di + 1) + u + 8 * ws.length ≤ 8 * m.length := by
      rw [List.length_cons] at hfit
      omega
    obtain ⟨m1, h1, hw1⟩ := packedStep_spec m hm w di u (hws w (by simp)) hu (Nat.le_trans (Nat.le_add_right _ _) (e8 ▸ hfit'))
    have e : 8 * (di + 1) + u = 8 * di + u + (natToBits w 8).length := by rw [natToBits_length]; exact e8
    obtain ⟨m2, h2, hw2⟩ := ih m1 (di + 1) hw1.2.1 (fun x hx => hws x (by simp [hx])) (by rw [hw1.1]; exact hfit')
    exact ⟨m2, by rw [packedStore_cons, h1]; exact h2, hw1.append (e ▸ hw2)⟩

theorem packedWords_lt (fuel v : Nat) : ∀ w ∈ packedWords fuel v, w < 256 := by
  induction fuel generalizing v with
  | zero => intro w hw; simp [packedWords] at hw
  | succ f ih =>
    intro w hw
    simp only [packedWords, List.mem_cons] at hw
    rcases hw with h | h
    · subst h; split <;> omega
    · split at h
      · exact ih _ w h
      · simp at h

theorem wPacked_eq (fuel v : Nat) : Utcp.wPacked fuel v = wordsBits (packedWords fuel v) := by
  induction fuel generalizing v with
  | zero => rfl
  | succ f ih =>
    simp only [Utcp.wPacked, packedWords, wordsBits, List.flatMap_cons]
    by_cases h : v / 128 = 0
    · simp [h]
    · have h' : (v / 128 != 0) = true := by simp [h]
      simp only [h', if_true, ne_eq, h, not_false_eq_true]
      rw [ih (v / 128)]; rfl

/-- `bitbuf_write_int_packed`: the 1-5 byte groups land on the next `8 * groups` bits at any cursor alignment (each group straddling two bytes unless
the cursor is byte aligned), or - not enough room - failure with everything untouched -/
theorem writeIntPacked_refines (b : Buf) (hb : WB b) (v : Nat) :
    (b.num + (Utcp.writeIntPacked v).length ≤ b.size → ∃ b', writeIntPacked b v = some (true, b') ∧ WB b' ∧ b'.size = b.size ∧
        content b' = content b ++ Utcp.writeIntPacked v) ∧
    (¬ b.num + (Utcp.writeIntPacked v).length ≤ b.size → writeIntPacked b v = some (false, b)) := by
  have hw : Utcp.writeIntPacked v = wordsBits (packedWords 5 (v % 4294967296)) := by
    unfold Utcp.writeIntPacked; rw [wPacked_eq]
  have hlen : (Utcp.writeIntPacked v).length = (packedWords 5 (v % 4294967296)).length * 8 := by
    rw [hw, wordsBits_length, Nat.mul_comm]
  rw [hlen]
  exact appends_of_store (fun b => writeIntPacked b v) _ _ (Utcp.writeIntPacked v) hlen (Nat.le_refl _)
    (fun m pos => packedStore (packedWords 5 (v % 4294967296)) m (pos / 8) (pos % 8)) (fun _ => rfl)
    (fun m pos hm _ hfit => by
      obtain ⟨m', h, hu⟩ := packedStore_spec (pos % 8) (Nat.mod_lt _ (by decide)) (packedWords 5 (v % 4294967296)) m (pos / 8) hm (packedWords_lt 5 _)
        (by rw [Nat.div_add_mod, Nat.mul_comm]; exact hfit)
      rw [Nat.div_add_mod] at hu
      exact ⟨m', h, hw ▸ hu⟩) b hb

theorem bytesOK_u32Bytes (v : Nat) : BytesOK (u32Bytes v) := by
  intro x hx
  simp only [u32Bytes, List.mem_cons, List.not_mem_nil, or_false] at hx
  rcases hx with h | h | h | h <;> exact h ▸ Nat.mod_lt _ (by decide)

theorem bitsFrom_u32Bytes (v : Nat) : bitsFrom (u32Bytes v) 0 32 = natToBits v 32 := by
  refine (bitsFrom_eq_wordsBits (u32Bytes v) (bytesOK_u32Bytes v)).trans ?_
  have e8 : ∀ x, natToBits (x % 256) 8 = natToBits x 8 := fun x => natToBits_mod x 8
  rw [show (32 : Nat) = 8 + (8 + (8 + 8)) from rfl, natToBits_add, natToBits_add, natToBits_add, Nat.div_div_eq_div_mul, Nat.div_div_eq_div_mul]
  simp only [wordsBits, u32Bytes, List.flatMap_cons, List.flatMap_nil, List.append_nil, e8]

/-- `bitbuf_write_int_byte_order` on a little-endian host: the 32 bits of the value, least significant first -/
theorem writeU32_refines (b : Buf) (hb : WB b) (v : Nat) :
    (b.num + 32 ≤ b.size → ∃ b', writeU32 b v = some (true, b') ∧ WB b' ∧ b'.size = b.size ∧ content b' = content b ++ Utcp.writeU32 v) ∧
    (¬ b.num + 32 ≤ b.size → writeU32 b v = some (false, b)) := by
  have h := writeBytes_refines b hb (u32Bytes v) (bytesOK_u32Bytes v) 4 (by simp [u32Bytes])
  have e : (4 : Nat) * 8 = 32 := rfl
  rw [e] at h
  unfold writeU32 Utcp.writeU32
  rw [← bitsFrom_u32Bytes]
  exact h

/-- one call of the property's vocabulary, with the arguments the C function gets (`data` = the caller's array) -/
inductive LOp where
  | bit (v : Nat)
  | run (data : Mem) (n : Nat)
  | bytes (data : Mem) (size : Nat)
  | int (v mx : Nat)
  | packed (v : Nat)
  | wrapped (v k : Nat)
  | word (v : Nat)

/-- in-range arguments -/
def LOp.ok : LOp → Prop
  | .bit _ => True
  | .run data n => BytesOK data ∧ n ≤ 8 * data.length
  | .bytes data size => BytesOK data ∧ size ≤ data.length
  | .int v mx => v < mx ∧ mx ≤ 2 ^ 32
  | .packed v => v < 2 ^ 32
  | .wrapped _ k => k ≤ 32
  | .word v => v < 2 ^ 32

/-- the bits the call appends (bit-level model) -/
def LOp.bits : LOp → Bits
  | .bit v => [decide (v % 256 ≠ 0)]
  | .run data n => bitsFrom data 0 n
  | .bytes data size => bitsFrom data 0 (size * 8)
  | .int v mx => Utcp.writeInt v mx
  | .packed v => Utcp.writeIntPacked v
  | .wrapped v k => Utcp.writeIntWrapped v (2 ^ k)
  | .word v => Utcp.writeU32 v

/-- the room the C function insists on before it writes (`ceil(log2 max)` for the bounded integers, even when the encoding is shorter) -/
def LOp.need : LOp → Nat
  | .int _ mx => ceilLogTwo mx
  | .wrapped _ k => ceilLogTwo (2 ^ k)
  | o => o.bits.length

def LOp.write : LOp → Buf → Option (Bool × Buf)
  | .bit v, b => writeBit b v
  | .run data n, b => writeBits b data n
  | .bytes data size, b => writeBytes b data size
  | .int v mx, b => writeInt b v mx
  | .packed v, b => writeIntPacked b v
  | .wrapped v k, b => writeIntWrapped b v (2 ^ k)
  | .word v, b => writeU32 b v

def writeAll : List LOp → Buf → Option (Bool × Buf)
  | [], b => some (true, b)
  | o :: os, b => (o.write b).bind fun (ok, b') => if ok then writeAll os b' else some (false, b')

def needAll (ops : List LOp) : Nat := (ops.map LOp.need).sum

theorem LOp.need_eq (o : LOp) : o.need = match o with
    | .bit _ => 1
    | .run _ n => n
    | .bytes _ size => size * 8
    | .int _ mx => ceilLogTwo mx
    | .packed v => (Utcp.writeIntPacked v).length
    | .wrapped _ k => ceilLogTwo (2 ^ k)
    | .word _ => 32 := by
  cases o <;> simp [LOp.need, LOp.bits, Utcp.writeU32]

theorem LOp.write_appends (o : LOp) (ho : o.ok) : Appends o.write o.need o.bits := by
  rw [LOp.need_eq]
  cases o with
  | bit v => exact fun b hb => writeBit_refines b hb v
  | run data n => exact fun b hb => writeBits_refines b hb data ho.1 n ho.2
  | bytes data size => exact fun b hb => writeBytes_refines b hb data ho.1 size ho.2
  | int v mx =>
    intro b hb
    have := writeInt_refines b hb v mx ho.2
    exact ⟨this.1 ho.1, fun h => this.2 (Or.inr h)⟩
  | packed v => exact fun b hb => writeIntPacked_refines b hb v
  | wrapped v k => exact fun b hb => writeIntWrapped_refines b hb v (2 ^ k) (Nat.pow_le_pow_right (by decide) ho)
  | word v => exact fun b hb => writeU32_refines b hb v

theorem LOp.bits_length_le (o : LOp) : o.bits.length ≤ o.need := by
  cases o with
  | int v mx => exact Utcp.writeInt_length_le v mx _ (le_two_pow_ceilLogTwo mx)
  | wrapped v k => exact Utcp.writeInt_length_le v (2 ^ k) _ (le_two_pow_ceilLogTwo _)
  | _ => exact Nat.le_refl _

/-! in-range arguments throughout a list of calls, along the constructors such lists are written with -/

theorem LOp.ok_nil : ∀ o ∈ ([] : List LOp), o.ok := fun _ h => nomatch h

theorem LOp.ok_cons {x : LOp} {l : List LOp} (hx : x.ok) (hl : ∀ o ∈ l, o.ok) : ∀ o ∈ x :: l, o.ok :=
  fun o ho => (List.mem_cons.mp ho).elim (fun h => h ▸ hx) (hl o)

theorem LOp.ok_append {a b : List LOp} (ha : ∀ o ∈ a, o.ok) (hb : ∀ o ∈ b, o.ok) : ∀ o ∈ a ++ b, o.ok :=
  fun o ho => (List.mem_append.mp ho).elim (ha o) (hb o)

theorem LOp.ok_ite {c : Prop} [Decidable c] {l : List LOp} (h : c → ∀ o ∈ l, o.ok) : ∀ o ∈ (if c then l else []), o.ok := by
  split
  · rename_i hc; exact h hc
  · exact LOp.ok_nil

/-- **any sequence of writes that fits**: every call succeeds and the buffer holds, in order, exactly the bits of the bit-level model -/
theorem writeAll_spec : ∀ (ops : List LOp) (b : Buf), (∀ o ∈ ops, o.ok) → WB b → b.num + needAll ops ≤ b.size →
    ∃ b', writeAll ops b = some (true, b') ∧ WB b' ∧ b'.size = b.size ∧ content b' = content b ++ ops.flatMap LOp.bits ∧ b'.num ≤ b.num + needAll ops := by
  intro ops
  induction ops with
  | nil => intro b _ hb _; exact ⟨b, rfl, hb, rfl, by simp, by simp [needAll]⟩
  | cons o os ih =>
    intro b hok hb hfit
    have hn : needAll (o :: os) = o.need + needAll os := by simp [needAll]
    rw [hn, ← Nat.add_assoc] at hfit ⊢
    have ho := hok o (by simp)
    obtain ⟨b1, h1, hwb1, hs1, hc1⟩ := (o.write_appends ho b hb).1 (Nat.le_trans (Nat.le_add_right _ _) hfit)
    have hn1 : b1.num ≤ b.num + o.need := num_of_content_append hc1 ▸ Nat.add_le_add_left o.bits_length_le _
    have hfit1 : b1.num + needAll os ≤ b.num + o.need + needAll os := Nat.add_le_add_right hn1 _
    obtain ⟨b2, h2, hwb2, hs2, hc2, hn2⟩ := ih b1 (fun x hx => hok x (by simp [hx])) hwb1 (hs1 ▸ Nat.le_trans hfit1 hfit)
    refine ⟨b2, ?_, hwb2, by rw [hs2, hs1], ?_, Nat.le_trans hn2 hfit1⟩
    · simp only [writeAll, h1, Option.bind_some, if_true]; exact h2
    · rw [hc2, hc1]; simp [List.flatMap_cons]

end Utcp.BB
