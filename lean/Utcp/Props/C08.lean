import Utcp.Handshake
import Utcp.Lemmas.React
/-!
# C08 — the listener is stateless: unfinished handshakes leave no trace

`LState.react` is the model of `utcp_listener_incoming` as a function of the listener's *persistent state*
`(secret0, secret1, active, lastSecretUpdate, addrScratch)`; `Listener.incoming` only appends what it
emitted to the log.  The random streams and the clock are *environment* (inputs), as in the C code where the
PRNG is process global.
-/
namespace Utcp.Props.C08
open Utcp

/-- what one datagram may emit: nothing, or exactly one reply datagram (never an allocation, never a callback) -/
def AtMostOneReply (evs : List Event) : Prop := evs = [] ∨ ∃ bytes, evs = [.out bytes]

/-- **frame**: a datagram that does not complete a handshake leaves the listener exactly as it was, emits at
most one reply and allocates nothing — whatever the bytes, the address, the clock and the random draws -/
theorem frame {T} (tm : TimeOps T) (mac : Mac) (e : Env) (rng : Rng) (l : LState T) (addr : String) (bytes : List UInt8)
    (hnone : (l.react tm mac e rng addr bytes).acc = none) :
    (l.react tm mac e rng addr bytes).st = l ∧ AtMostOneReply (l.react tm mac e rng addr bytes).evs := by
  have h := react_reacts tm mac e rng l addr bytes
  generalize l.react tm mac e rng addr bytes = r at h hnone ⊢
  cases h with
  | quiet => exact ⟨rfl, .inl rfl⟩
  | reply => exact ⟨rfl, .inr ⟨_, rfl⟩⟩
  | accept => cases hnone

/-- `frame` at the level of the listener object -/
theorem frame_listener {T} (tm : TimeOps T) (mac : Mac) (e : Env) (rng : Rng) (l : Listener T) (addr : String) (bytes : List UInt8)
    (hnone : (l.incoming tm mac e rng addr bytes).2.2.2 = none) :
    (l.incoming tm mac e rng addr bytes).1.st = l.st ∧
    ((l.incoming tm mac e rng addr bytes).1.log = l.log ∨ ∃ b, (l.incoming tm mac e rng addr bytes).1.log = .out b :: l.log) := by
  unfold Listener.incoming at *
  obtain ⟨h1, h2⟩ := frame tm mac e rng l.st addr bytes hnone
  refine ⟨h1, ?_⟩
  rcases h2 with h2 | ⟨b, h2⟩
  · left; simp [h2]
  · right; exact ⟨b, by simp [h2]⟩

/-- the listener never allocates, whatever it receives -/
theorem no_alloc {T} (tm : TimeOps T) (mac : Mac) (e : Env) (rng : Rng) (l : LState T) (addr : String) (bytes : List UInt8) :
    ∀ ev ∈ (l.react tm mac e rng addr bytes).evs, (∃ b, ev = .out b) ∨ (∃ r a, ev = .accept r a) := by
  have h := react_reacts tm mac e rng l addr bytes
  generalize l.react tm mac e rng addr bytes = r at h ⊢
  intro ev hev
  cases h with
  | quiet => cases hev
  | reply _ _ b => cases List.mem_singleton.mp hev; exact .inl ⟨b, rfl⟩
  | accept _ _ _ r name b =>
    rcases List.mem_cons.mp hev with rfl | hev
    · exact .inr ⟨r, name, rfl⟩
    · cases List.mem_singleton.mp hev; exact .inl ⟨b, rfl⟩

/-- one input to the listener, with the environment it arrives in -/
structure Input where
  e : Env
  rng : Rng
  addr : String
  bytes : List UInt8

def run {T} (tm : TimeOps T) (mac : Mac) (l : LState T) : List Input → LState T
  | [] => l
  | i :: is => run tm mac (l.react tm mac i.e i.rng i.addr i.bytes).st is

def NonCompleting {T} (tm : TimeOps T) (mac : Mac) (l : LState T) : List Input → Prop
  | [] => True
  | i :: is => (l.react tm mac i.e i.rng i.addr i.bytes).acc = none ∧ NonCompleting tm mac (l.react tm mac i.e i.rng i.addr i.bytes).st is

/-- **history freedom**: any amount of non-completing traffic — initial packets from unboundedly many
addresses, malformed packets, failed and expired responses, stray data packets, in any order and number —
leaves the listener *equal* to what it was -/
theorem history_free_state {T} (tm : TimeOps T) (mac : Mac) (l : LState T) (ds : List Input) (h : NonCompleting tm mac l ds) :
    run tm mac l ds = l := by
  induction ds generalizing l with
  | nil => rfl
  | cons i is ih =>
    obtain ⟨h1, h2⟩ := h
    have hf := (frame tm mac i.e i.rng l i.addr i.bytes h1).1
    simp only [run]
    rw [hf] at h2 ⊢
    exact ih l h2

/-- after non-completing traffic every later datagram is answered byte for byte (reply, return code, acceptance, next
random state) as it would have been without that traffic -/
theorem history_free_reply {T} (tm : TimeOps T) (mac : Mac) (l : LState T) (ds : List Input) (h : NonCompleting tm mac l ds) (i : Input) :
    (run tm mac l ds).react tm mac i.e i.rng i.addr i.bytes = l.react tm mac i.e i.rng i.addr i.bytes := by
  rw [history_free_state tm mac l ds h]

/-- a completed handshake leaves behind only the tail of the address scratch field (in the C source nothing reads it: every
comparison stops at the NUL that the reset puts in byte 0 — an observation about the source, not a theorem; no function of
the modelled listener reads the field); secrets, active slot and rotation time are untouched by *any* datagram -/
theorem secrets_untouched {T} (tm : TimeOps T) (mac : Mac) (e : Env) (rng : Rng) (l : LState T) (addr : String) (bytes : List UInt8) :
    let l' := (l.react tm mac e rng addr bytes).st
    l'.secret0 = l.secret0 ∧ l'.secret1 = l.secret1 ∧ l'.active = l.active ∧ l'.lastSecretUpdate = l.lastSecretUpdate := by
  have h := react_reacts tm mac e rng l addr bytes
  generalize l.react tm mac e rng addr bytes = r at h ⊢
  cases h <;> exact ⟨rfl, rfl, rfl, rfl⟩

/-! non-vacuity: a random byte string is non-completing for a fresh listener -/
example : (({ lastSecretUpdate := (0 : Int) } : LState Int).react intOps (fun _ _ => []) {} {} "1.2.3.4:5" [1, 2, 3]).acc = none := by decide

end Utcp.Props.C08
