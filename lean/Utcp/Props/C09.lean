import Utcp.Lemmas.Shrinks
import Utcp.Lemmas.RecvAdds
import Utcp.Lemmas.Pack
/-!
# C09 — arbitrary datagrams never crash, corrupt memory or hang an endpoint

What a theorem about the model can carry, for **every** byte string and every state:
* *always returns*: every function of the model is total (Lean's termination checker accepted them; loops run on
  explicit fuel), and the fuel given to the bunch loop is provably sufficient — each bunch read consumes at least
  one bit, so the loop ends with nothing left over;
* *callback arguments*: every `on_recv_bunch` invocation has `1 ≤ count ≤ 256`;
* *no abort*: the model has no abort outcome; the assertions of the C code that are reachable from the wire were
  removed (defects D2, D7) or are invariants (see DESIGN.md §6 C09) and the assert-enabled build of the real code
  is run on every correspondence scenario.
For the bit buffer, `utcp_bunch_read`, `packet_header_read`, `ReceivedPacket` and `utcp_incoming` on a data datagram, "touches no byte
outside its arrays" is proved over the byte-array model of the calls they make (`Props/C09_Bytes.lean`, `C09_Header.lean`, `C09_Packet.lean`,
`C09_Incoming.lean`, `C09_Init.lean`; DESIGN.md §12.6, §12.9).  Raw C memory safety of everything else is *observed* (ASan/UBSan on
exact-size heap buffers in both build flavours on hostile input), not proved.
-/
namespace Utcp.Props.C09
open Utcp Utcp.Gen

/-- every bunch read makes progress, also when it fails and the connection is being closed -/
theorem rawBunch_progress (c : Conn) (b : Bool) (bs : Bits) : (c.receivedRawBunch (b :: bs)).2.1.length < (b :: bs).length := by
  rw [receivedRawBunch_rest]
  exact decodeBunch_progress b bs

/-- **the bunch loop of `ReceivedPacket` terminates with nothing left over**: the fuel `length + 1` the model passes
is sufficient for every input, so an accepted packet is always parsed to the end (`utcp_incoming` returns true) -/
theorem bunchLoop_consumes_all (fuel : Nat) : ∀ (c : Conn) (bits : Bits) (skip : Bool), bits.length < fuel →
    (Conn.bunchLoop fuel c bits skip).2.1 = [] := by
  induction fuel with
  | zero => intro c bits skip h; exact absurd h (Nat.not_lt_zero _)
  | succ f ih =>
    intro c bits skip h
    cases bits with
    | nil => rfl
    | cons b bs =>
      rw [bunchLoop_succ f c _ skip (List.cons_ne_nil b bs)]
      exact ih _ _ _ (Nat.lt_of_lt_of_le (rawBunch_progress c b bs) (Nat.le_of_lt_succ h))

theorem accepted_packet_returns_true (e : Env) (c : Conn) (bits : Bits) (h : NotifHeader) (rest : Bits)
    (hd : decodePacketHeader bits = .ok (h, rest)) (hpos : c.notify.deltaSeq h > 0) : (c.receivedPacket e bits).2 = true := by
  rw [receivedPacket_accept e c hd hpos]
  dsimp only
  rw [bunchLoop_consumes_all (rest.length + 1) _ rest false (Nat.lt_succ_self _)]
  rfl

/-- a header that does not parse closes the connection with one of the two header reasons and returns false -/
theorem bad_header_closes (e : Env) (c : Conn) (bits : Bits) (r : Nat) (hd : decodePacketHeader bits = .error r) :
    (c.receivedPacket e bits) = (c.markClose r, false) ∧ (r = crReadHeaderFail ∨ r = crReadHeaderExtraFail) :=
  ⟨receivedPacket_error e c hd, decodePacketHeader_cases hd⟩

/-- the receive callback is only ever invoked with a positive count that fits the callback array -/
def RecvOK (ev : Event) : Prop := ∀ bs, ev = .recv bs → 1 ≤ bs.length ∧ bs.length ≤ 256

theorem recvOK_of_not_recv (ev : Event) (h : isRecv ev = false) : RecvOK ev := of_not_recv ev h

theorem recvOK_pred : RecvPred RecvOK :=
  ⟨fun k bs hb => (by cases hb), fun k bs hb => (by cases hb), fun k bs hb => (by cases hb), fun g h1 h2 bs hb => (by cases hb; exact ⟨h1, h2⟩)⟩

theorem recvOK_notif : NotifPred RecvOK :=
  ⟨fun _ _ => recvOK_of_not_recv _ rfl, fun ev h => recvOK_of_not_recv ev (isOut_not_recv ev h), fun ev h => recvOK_of_not_recv ev (isFreeNode_not_recv ev h)⟩

/-- `ReceivedNextBunch`: at most one callback, with `1 ≤ count ≤ 256` (an over-long group is dropped instead).
(`Lemmas/RecvAdds.lean` has this for any event predicate that holds of allocator events and of callbacks with a valid count.) -/
theorem receivedNextBunch_adds (c : Conn) (b : Bunch) : Adds RecvOK c (c.receivedNextBunch b).1 :=
  _root_.Utcp.receivedNextBunch_adds recvOK_pred c b

theorem receivedRawBunch_adds (c : Conn) (bits : Bits) : Adds RecvOK c (c.receivedRawBunch bits).1 :=
  _root_.Utcp.receivedRawBunch_adds recvOK_pred c bits

theorem bunchLoop_adds (fuel : Nat) (c : Conn) (bits : Bits) (skip : Bool) : Adds RecvOK c (Conn.bunchLoop fuel c bits skip).1 :=
  _root_.Utcp.bunchLoop_adds recvOK_pred fuel c bits skip

/-- **for every bit string handed to `ReceivedPacket`**, in every state: whatever is delivered is delivered with a
valid count -/
theorem receivedPacket_adds (e : Env) (c : Conn) (bits : Bits) : Adds RecvOK c (c.receivedPacket e bits).1 :=
  _root_.Utcp.receivedPacket_adds recvOK_pred recvOK_notif e c bits

/-! non-vacuity: a one-bit packet body is consumed -/
example : (Conn.bunchLoop 2 {} [true] false).2.1 = [] := by decide

end Utcp.Props.C09
