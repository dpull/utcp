import Utcp.Props.C20
import Utcp.Props.C04
import Utcp.Props.C13
import Utcp.Lemmas.RecvKeeps
/-!
# C20, continued: reordering alone is invisible

For a batch of datagrams with distinct packet ids ahead of the counter, every arrival order makes the wrapper hand the batch to the core in
ascending id order (`batch_fed_ascending`), hence leaves exactly the same state behind (`reordering_invisible`).  What the wrapper relies on is
collected in `Batch`; `burst_is_batch` shows that genuine data datagrams of one burst meet it.

The argument (`run_ascending`): at any moment let `S` be what is cached together with what has still to arrive, in ascending id order.  Feeding `S`
to the core from the present state gives a result that no step of the wrapper changes: an arrival only moves a datagram from "to arrive" to
"cached", and a release hands over the head of `S`, because the wrapper releases the lowest cached id only when it is the expected one and every
other pending id is ahead of the counter too.  At the end nothing is left to arrive and the forced flush feeds the cache, which is `S`.
-/
namespace Utcp.Props.C20
open Utcp Utcp.Gen

/-- `feed` on bare datagrams (`feed_eq_feedD`) -/
def feedD {T} (tm : TimeOps T) (e : Env) : Endpoint → Rng → List (List UInt8) → Endpoint × Rng
  | ep, rng, [] => (ep, rng)
  | ep, rng, d :: ds => let r := ep.incoming tm e rng d; feedD tm e r.1 r.2.1 ds

theorem feed_eq_feedD {T} (tm : TimeOps T) (e : Env) (l : List Entry) : ∀ (ep : Endpoint) (rng : Rng),
    feed tm e ep rng l = feedD tm e ep rng (l.map (·.2)) := by
  induction l with
  | nil => intro ep rng; rfl
  | cons p l ih => intro ep rng; simp only [feed, List.map_cons, feedD]; exact ih _ _

/-- `S` is `l` in ascending order of `key` -/
def Asc (key : List UInt8 → Int) (S l : List (List UInt8)) : Prop := S.Perm l ∧ S.Pairwise (fun a b => key a < key b)

theorem Asc.head {key : List UInt8 → Int} {S l : List (List UInt8)} {x : List UInt8} (h : Asc key S (x :: l)) (hmin : ∀ y ∈ l, key x < key y) :
    ∃ S', S = x :: S' ∧ Asc key S' l := by
  obtain ⟨hp, hs⟩ := h
  cases S with
  | nil => exact absurd hp.length_eq (by simp)
  | cons s S' =>
    rw [List.pairwise_cons] at hs
    rcases List.mem_cons.mp (hp.symm.subset (List.mem_cons_self ..)) with rfl | hx
    · exact ⟨S', rfl, hp.cons_inv, hs.2⟩
    · have h1 := hs.1 x hx
      rcases List.mem_cons.mp (hp.subset (List.mem_cons_self ..)) with rfl | hsl
      · omega
      · have := hmin s hsl; omega

theorem Asc.nodup {key : List UInt8 → Int} {S l : List (List UInt8)} (h : Asc key S l) : l.Nodup :=
  h.1.nodup_iff.mp (h.2.imp (fun hlt hq => by rw [hq] at hlt; omega))

theorem exists_asc (key : List UInt8 → Int) (l : List (List UInt8)) (hinj : ∀ a ∈ l, ∀ b ∈ l, key a = key b → a = b) (hnd : l.Nodup) :
    ∃ S, Asc key S l := by
  have hperm := List.mergeSort_perm l (fun a b => decide (key a ≤ key b))
  refine ⟨_, hperm, ?_⟩
  have hle := List.pairwise_mergeSort (le := fun a b => decide (key a ≤ key b))
    (fun a b c h1 h2 => by simp only [decide_eq_true_eq] at *; omega) (fun a b => by simp only [Bool.or_eq_true, decide_eq_true_eq]; omega) l
  refine (hle.and (hperm.nodup_iff.mpr hnd)).imp_of_mem ?_
  intro a b ha hb ⟨h1, h2⟩
  have : key a ≠ key b := fun hq => h2 (hinj a (hperm.subset ha) b (hperm.subset hb) hq)
  simp only [decide_eq_true_eq] at h1
  omega

/-- what the wrapper relies on, for a batch `ds` of datagrams with (full) packet ids `key`, while the core's packet-id counter stays in `[I0, Imax]`:
the ids are distinct, newer than `I0` and at most `Imax`; in every state the run can reach (`R`, an invariant of handing batch datagrams to the core)
the peek of a batch datagram is its id as long as that is ahead of the counter and non-positive afterwards, and handing a batch datagram to the core
leaves the counter alone or advances it to that datagram's id. -/
structure Batch {T} (tm : TimeOps T) (e : Env) (R : Endpoint → Prop) (key : List UInt8 → Int) (ds : List (List UInt8)) (I0 Imax : Int) : Prop where
  inj : ∀ a ∈ ds, ∀ b ∈ ds, key a = key b → a = b
  newer : ∀ d ∈ ds, I0 < key d
  upper : ∀ d ∈ ds, key d ≤ Imax
  peek : ∀ d ∈ ds, ∀ ep : Endpoint, R ep → I0 ≤ ep.c.inPacketId → ep.c.inPacketId ≤ Imax →
    (ep.c.inPacketId < key d → ep.peek e d = key d) ∧ (key d ≤ ep.c.inPacketId → ep.peek e d ≤ 0)
  step : ∀ d ∈ ds, ∀ (ep : Endpoint) (rng : Rng), R ep → I0 ≤ ep.c.inPacketId → ep.c.inPacketId ≤ Imax →
    R (ep.incoming tm e rng d).1 ∧
    ((ep.incoming tm e rng d).1.c.inPacketId = ep.c.inPacketId ∨
      (ep.c.inPacketId < key d ∧ (ep.incoming tm e rng d).1.c.inPacketId = key d))

/-- the state of the wrapper while a batch arrives in some order, `todo` being the batch datagrams that have still to arrive: what is cached or
still to arrive is ahead of the counter, and handing it to the core from here in ascending id order leads to `out` -/
structure Pending {T} (tm : TimeOps T) (e : Env) (R : Endpoint → Prop) (key : List UInt8 → Int) (ds : List (List UInt8)) (I0 Imax : Int)
    (out : Endpoint × Rng) (w : Wrapped) (rng : Rng) (todo : List (List UInt8)) : Prop where
  reach : R w.ep
  lo : I0 ≤ w.ep.c.inPacketId
  hi : w.ep.c.inPacketId ≤ Imax
  keyed : ∀ p ∈ w.cache, p.1 = key p.2
  sorted : w.cache.Pairwise (fun a b => a.1 ≤ b.1)
  ahead : ∀ d ∈ w.cache.map (·.2) ++ todo, d ∈ ds ∧ w.ep.c.inPacketId < key d
  goes : ∃ S, Asc key S (w.cache.map (·.2) ++ todo) ∧ feedD tm e w.ep rng S = out

/-- the wrapper's test for "the core has not seen a packet yet" (`expected != -1`) is met by every counter that is not negative -/
theorem expected_ne_neg_one {i : Int} (h : 0 ≤ i) : (i + 1 != -1) = true := by
  simp only [bne_iff_ne, ne_eq]
  omega

/-- a (non-forced) flush hands over the head of the ascending list, or nothing -/
theorem flush_pending {T} (tm : TimeOps T) (e : Env) {R : Endpoint → Prop} {key : List UInt8 → Int} {ds : List (List UInt8)} {I0 Imax : Int} (hI0 : 0 ≤ I0)
    (hb : Batch tm e R key ds I0 Imax) (out : Endpoint × Rng) (todo : List (List UInt8)) (fuel : Nat) (w : Wrapped) (rng : Rng)
    (h : Pending tm e R key ds I0 Imax out w rng todo) :
    Pending tm e R key ds I0 Imax out (w.flushCache tm e fuel rng false).1 (w.flushCache tm e fuel rng false).2 todo := by
  fun_induction Wrapped.flushCache tm e fuel w rng false with
  | case1 => exact h
  | case2 => exact h
  | case3 => exact h
  | case4 w rng fuel k d rest hc expd hcond ep rng' ok hinc ih =>
    have hk : k = key d := h.keyed (k, d) (by rw [hc]; simp)
    obtain ⟨S, hS, hout⟩ := h.goes
    have hsorted := h.sorted
    rw [hc, List.map_cons, List.cons_append] at hS
    have hnd := List.nodup_cons.mp hS.nodup
    rw [hc, List.pairwise_cons] at hsorted
    obtain ⟨hdin, hgt⟩ := h.ahead d (by rw [hc]; exact List.mem_cons_self ..)
    -- the released id is the expected one, and every other pending id is beyond it
    have hkeq : key d = w.ep.c.inPacketId + 1 := by
      simp only [expd, Bool.not_false, Bool.true_and, expected_ne_neg_one (Int.le_trans hI0 h.lo), decide_eq_true_eq] at hcond
      have hle : key d ≤ w.ep.c.inPacketId + 1 := hk ▸ Int.not_lt.mp hcond
      exact Int.le_antisymm hle (Int.add_one_le_of_lt hgt)
    have hrest : ∀ y ∈ rest.map (·.2) ++ todo, y ∈ ds ∧ key d < key y := by
      intro y hy
      obtain ⟨hyin, hygt⟩ := h.ahead y (by rw [hc]; exact List.mem_cons_of_mem _ hy)
      have : key y ≠ key d := fun hq => hnd.1 (hb.inj y hyin d hdin hq ▸ hy)
      have hge : key d ≤ key y := hkeq ▸ Int.add_one_le_of_lt hygt
      exact ⟨hyin, Int.lt_iff_le_and_ne.mpr ⟨hge, this.symm⟩⟩
    obtain ⟨S', rfl, hS'⟩ := hS.head (fun y hy => (hrest y hy).2)
    obtain ⟨hR', hstep⟩ := hb.step d hdin w.ep rng h.reach h.lo h.hi
    rw [feedD, hinc] at hout
    rw [hinc] at hR' hstep
    -- the counter stays or moves to the released id
    have hI' : w.ep.c.inPacketId ≤ ep.c.inPacketId ∧ ep.c.inPacketId ≤ key d := by
      rcases hstep with h1 | ⟨_, h1⟩
      · rw [h1]
        exact ⟨Int.le_refl _, Int.le_of_lt hgt⟩
      · rw [h1]
        exact ⟨Int.le_of_lt hgt, Int.le_refl _⟩
    exact ih ⟨hR', Int.le_trans h.lo hI'.1, Int.le_trans hI'.2 (hb.upper d hdin), fun p hp => h.keyed p (by rw [hc]; exact List.mem_cons_of_mem _ hp),
      hsorted.2, fun y hy => ⟨(hrest y hy).1, Int.lt_of_le_of_lt hI'.2 (hrest y hy).2⟩, S', hS', hout⟩

/-- one arrival of a batch datagram that is still to arrive: it is cached, since its id is ahead of the counter -/
theorem arrival_pending {T} (tm : TimeOps T) (e : Env) {R : Endpoint → Prop} {key : List UInt8 → Int} {ds : List (List UInt8)} {I0 Imax : Int} (hI0 : 0 ≤ I0)
    (hb : Batch tm e R key ds I0 Imax) (out : Endpoint × Rng) (w : Wrapped) (rng : Rng) (d : List UInt8) (todo : List (List UInt8))
    (h : Pending tm e R key ds I0 Imax out w rng (d :: todo)) :
    Pending tm e R key ds I0 Imax out (w.incoming tm e rng d).1 (w.incoming tm e rng d).2 todo := by
  obtain ⟨hd, hgt⟩ := h.ahead d (List.mem_append_right _ (List.mem_cons_self ..))
  have hpk := (hb.peek d hd w.ep h.reach h.lo h.hi).1 hgt
  have hpos : ¬ (w.ep.peek e d ≤ 0) := hpk ▸ Int.not_le.mpr (Int.lt_of_le_of_lt (Int.le_trans hI0 h.lo) hgt)
  unfold Wrapped.incoming
  dsimp only
  rw [if_neg hpos, hpk]
  have hperm : ((cacheInsert (key d) d w.cache).map (·.2) ++ todo).Perm (w.cache.map (·.2) ++ d :: todo) :=
    (((cacheInsert_perm (key d) d w.cache).map (·.2)).append_right todo).trans List.perm_middle.symm
  obtain ⟨S, hS, hout⟩ := h.goes
  refine flush_pending tm e hI0 hb out todo _ _ rng ⟨h.reach, h.lo, h.hi, ?_, cacheInsert_sorted _ _ _ h.sorted, fun x hx => h.ahead x (hperm.subset hx), S, ⟨hS.1.trans hperm.symm, hS.2⟩, hout⟩
  intro p hp
  rcases (mem_cacheInsert (key d) d w.cache p).mp hp with rfl | hp
  · rfl
  · exact h.keyed p hp

/-- the complete run of the wrapper on one arrival order: all arrivals, then `flush_incoming_cache` -/
def runBatch {T} (tm : TimeOps T) (e : Env) (w0 : Wrapped) (rng : Rng) (arr : List (List UInt8)) : Wrapped × Rng :=
  let a := arr.foldl (fun (s : Wrapped × Rng) d => s.1.incoming tm e s.2 d) (w0, rng)
  a.1.flushCache tm e a.1.cache.length a.2 true

theorem runBatch_cons {T} (tm : TimeOps T) (e : Env) (w : Wrapped) (rng : Rng) (d : List UInt8) (arr : List (List UInt8)) :
    runBatch tm e w rng (d :: arr) = runBatch tm e (w.incoming tm e rng d).1 (w.incoming tm e rng d).2 arr := by
  simp only [runBatch, List.foldl_cons]

theorem drained_eq {x : Wrapped × Rng} {z : Endpoint × Rng} (h1 : x.1.cache = []) (h2 : (x.1.ep, x.2) = z) : x = (⟨z.1, []⟩, z.2) := by
  obtain ⟨⟨ep, c⟩, g⟩ := x
  cases h1; cases h2
  rfl

/-- **the run of the wrapper is the core fed the pending datagrams in ascending id order**, whatever the arrival order `arr` -/
theorem run_ascending {T} (tm : TimeOps T) (e : Env) {R : Endpoint → Prop} {key : List UInt8 → Int} {ds : List (List UInt8)} {I0 Imax : Int} (hI0 : 0 ≤ I0)
    (hb : Batch tm e R key ds I0 Imax) (out : Endpoint × Rng) (arr : List (List UInt8)) :
    ∀ (w : Wrapped) (rng : Rng), Pending tm e R key ds I0 Imax out w rng arr → runBatch tm e w rng arr = (⟨out.1, []⟩, out.2) := by
  induction arr with
  | nil =>
    intro w rng h
    obtain ⟨S, hS, hout⟩ := h.goes
    rw [List.append_nil] at hS
    -- nothing is still to arrive: the cache is the ascending list
    have hSeq : S = w.cache.map (·.2) := by
      refine List.Perm.eq_of_pairwise (le := fun a b => key a ≤ key b) ?_ (hS.2.imp Int.le_of_lt) ?_ hS.1
      · intro a b ha hb' h1 h2
        exact hb.inj a (h.ahead a (List.mem_append_left [] (hS.1.subset ha))).1 b (h.ahead b (List.mem_append_left [] hb')).1 (Int.le_antisymm h1 h2)
      · rw [List.pairwise_map]
        exact h.sorted.imp_of_mem (fun ha hb' hle => by rw [← h.keyed _ ha, ← h.keyed _ hb']; exact hle)
    rw [← hout, hSeq, ← feed_eq_feedD]
    have hf := flush_forced tm e w rng w.cache.length (Nat.le_refl _)
    exact drained_eq hf.1 hf.2
  | cons d arr ih => intro w rng h; rw [runBatch_cons]; exact ih _ _ (arrival_pending tm e hI0 hb out w rng d arr h)

/-- a whole batch arriving at an empty cache -/
theorem run_batch {T} (tm : TimeOps T) (e : Env) (R : Endpoint → Prop) (key : List UInt8 → Int) (ds : List (List UInt8)) (Imax : Int)
    (w0 : Wrapped) (rng : Rng) (h0 : w0.cache = []) (hR0 : R w0.ep) (hI0 : 0 ≤ w0.ep.c.inPacketId) (hImax : w0.ep.c.inPacketId ≤ Imax)
    (hb : Batch tm e R key ds w0.ep.c.inPacketId Imax) (F : List (List UInt8)) (hF : Asc key F ds) (arr : List (List UInt8)) (hp : arr.Perm ds) :
    runBatch tm e w0 rng arr = (⟨(feedD tm e w0.ep rng F).1, []⟩, (feedD tm e w0.ep rng F).2) := by
  refine run_ascending tm e hI0 hb _ arr w0 rng
    ⟨hR0, Int.le_refl _, hImax, by simp [h0], by simp [h0], ?_, F, by rw [h0]; exact ⟨hF.1.trans hp.symm, hF.2⟩, rfl⟩
  intro d hd
  rw [h0] at hd
  exact ⟨hp.subset hd, hb.newer d (hp.subset hd)⟩

/-- **what the core is fed is the batch in ascending id order**, whatever the arrival order: the run of the wrapper (arrivals through
`conn::incoming`, with the releases they trigger, then `flush_incoming_cache`) ends with an empty cache and in the state the core reaches
when it is handed a list `F` that is a permutation of the batch and strictly ascending in the packet ids -/
theorem batch_fed_ascending {T} (tm : TimeOps T) (e : Env) (R : Endpoint → Prop) (key : List UInt8 → Int) (ds : List (List UInt8)) (Imax : Int)
    (w0 : Wrapped) (rng : Rng) (h0 : w0.cache = []) (hR0 : R w0.ep) (hI0 : 0 ≤ w0.ep.c.inPacketId) (hImax : w0.ep.c.inPacketId ≤ Imax)
    (hb : Batch tm e R key ds w0.ep.c.inPacketId Imax) (hnd : ds.Nodup) (arr : List (List UInt8)) (hp : arr.Perm ds) :
    ∃ F : List (List UInt8), F.Perm ds ∧ F.Pairwise (fun a b => key a < key b) ∧
      (runBatch tm e w0 rng arr).1.cache = [] ∧ ((runBatch tm e w0 rng arr).1.ep, (runBatch tm e w0 rng arr).2) = feedD tm e w0.ep rng F := by
  obtain ⟨F, hF⟩ := exists_asc key ds hb.inj hnd
  refine ⟨F, hF.1, hF.2, ?_⟩
  rw [run_batch tm e R key ds Imax w0 rng h0 hR0 hI0 hImax hb F hF arr hp]
  exact ⟨rfl, rfl⟩

/-- **reordering alone is invisible**: two arrival orders of the same batch leave the wrapper - the core's whole state (so: every bunch delivered and its
order, every acknowledgement recorded, everything queued for sending) and the random stream - exactly the same.  In particular any arrival order is
the same as arrival in sending order. -/
theorem reordering_invisible {T} (tm : TimeOps T) (e : Env) (R : Endpoint → Prop) (key : List UInt8 → Int) (ds : List (List UInt8)) (Imax : Int)
    (w0 : Wrapped) (rng : Rng) (h0 : w0.cache = []) (hR0 : R w0.ep) (hI0 : 0 ≤ w0.ep.c.inPacketId) (hImax : w0.ep.c.inPacketId ≤ Imax)
    (hb : Batch tm e R key ds w0.ep.c.inPacketId Imax) (hnd : ds.Nodup) (arr1 arr2 : List (List UInt8)) (h1 : arr1.Perm ds) (h2 : arr2.Perm ds) :
    runBatch tm e w0 rng arr1 = runBatch tm e w0 rng arr2 := by
  obtain ⟨F, hF⟩ := exists_asc key ds hb.inj hnd
  exact (run_batch tm e R key ds Imax w0 rng h0 hR0 hI0 hImax hb F hF arr1 h1).trans
    (run_batch tm e R key ds Imax w0 rng h0 hR0 hI0 hImax hb F hF arr2 h2).symm

/-- a data datagram (not a handshake datagram, not empty) whose notification header carries the 14-bit sequence `seq` and acknowledges `acked`:
facts about the bytes alone -/
def DataDg (e : Env) (d : List UInt8) (seq acked : Int) : Prop :=
  ∃ bits s c rest packed r1 hist r2,
    readInit d = some bits ∧ readOutgoingHeader e bits = .ok (s, c, false) rest ∧ rest.isEmpty = false ∧
    readU32 rest = .ok packed r1 ∧ readBits (32 * min histWordsMax (packed % 16 + 1)) r1 = .ok hist r2 ∧
    seq = ((packed / 2^18 % 16384 : Nat) : Int) ∧ acked = ((packed / 16 % 16384 : Nat) : Int) ∧
    (∀ h body, decodePacketHeader rest.dropLast = .ok (h, body) → h.seq = seq ∧ h.ackedSeq = acked)

theorem DataDg.incoming {T} (tm : TimeOps T) {e : Env} {d : List UInt8} {seq acked : Int} (hd : DataDg e d seq acked) (ep : Endpoint) (rng : Rng) :
    ∃ bits s c rest, readInit d = some bits ∧ readOutgoingHeader e bits = .ok (s, c, false) rest ∧
      (∀ h body, decodePacketHeader rest.dropLast = .ok (h, body) → h.seq = seq ∧ h.ackedSeq = acked) ∧
      ep.incoming tm e rng d =
        ({ ep with c := ((heard e ep.c s c).receivedPacket e rest.dropLast).1 }, rng, ((heard e ep.c s c).receivedPacket e rest.dropLast).2) := by
  obtain ⟨bits, s, c, rest, packed, r1, hist, r2, hri, hro, hne, _, _, _, _, hdec⟩ := hd
  exact ⟨bits, s, c, rest, hri, hro, hdec, incoming_data tm e ep rng d bits rest s c hri hro hne⟩

/-- the states a burst can lead to: nothing newly acknowledged (`OutAckSeq`, `OutSeq` as at the start), and the 14-bit receive sequence is the
packet-id counter modulo 2^14 -/
def RBurst (A O : Int) (ep : Endpoint) : Prop :=
  ep.c.notify.outAckSeq = A ∧ ep.c.notify.outSeq = O ∧ ep.c.notify.inSeq = ep.c.inPacketId % 16384

/-- the same of the connection alone: `RBurst A O ep` is `RBurstC A O ep.c` by definition -/
def RBurstC (A O : Int) (c : Conn) : Prop :=
  c.notify.outAckSeq = A ∧ c.notify.outSeq = O ∧ c.notify.inSeq = c.inPacketId % 16384

theorem delta_burst (n : Notify) (h : NotifHeader) (I key A O : Int) (h1 : n.inSeq = I % 16384) (h2 : n.outAckSeq = A) (h3 : n.outSeq = O)
    (h4 : h.seq = key % 16384) (h5 : h.ackedSeq = A) (hAA : seq_num_greater_equal A A = true) (hOA : seq_num_greater_than O A = true)
    (hw : -8192 < key - I ∧ key - I < 8192) : n.deltaSeq h = if key > I then key - I else 0 := by
  rw [Notify.deltaSeq_eq]
  unfold Notify.deltaSeqSpec
  rw [h1, h2, h3, h4, h5, hAA, hOA, Utcp.Props.C13.gt_abs key I hw, Utcp.Props.C13.diff_abs key I ⟨by omega, hw.2⟩]
  by_cases hk : key > I <;> simp [hk]

/-- `ReceivedPacket`, header behind the counter (a duplicate, or overtaken) of a receiver whose 14-bit receive sequence is the counter modulo 2^14:
the connection is untouched - whatever the header acknowledges (`C04.older_is_stale`) -/
theorem receivedPacket_behind (e : Env) (c : Conn) (bits : Bits) (h : NotifHeader) (body : Bits) (key : Int)
    (hin : c.notify.inSeq = c.inPacketId % 16384) (hd : decodePacketHeader bits = .ok (h, body)) (hs : h.seq = key % 16384)
    (hw : key ≤ c.inPacketId ∧ c.inPacketId - key < 8192) :
    c.receivedPacket e bits = (c, body.isEmpty) := by
  have hdelta := Utcp.Props.C04.older_is_stale c.notify h c.inPacketId key hin hs hw.1 hw.2
  exact receivedPacket_stale e c hd (by rw [hdelta]; exact Int.le_refl _)

/-- `ReceivedPacket` in a burst state, header ahead of the counter: the counter moves to exactly `key`, the state is a burst state again -
whatever the bunches do -/
theorem receivedPacket_ahead (e : Env) (c : Conn) (bits : Bits) (h : NotifHeader) (body : Bits) (key A O : Int)
    (hR : RBurstC A O c)
    (hd : decodePacketHeader bits = .ok (h, body)) (hs : h.seq = key % 16384) (ha : h.ackedSeq = A) (hOA : seq_num_greater_than O A = true)
    (hw : c.inPacketId < key ∧ key - c.inPacketId < 8192) :
    (c.receivedPacket e bits).1.inPacketId = key ∧ RBurstC A O (c.receivedPacket e bits).1 := by
  have hpos : 0 < key - c.inPacketId := Int.sub_pos_of_lt hw.1
  have hdelta := delta_burst c.notify h c.inPacketId key A O hR.2.2 hR.1 hR.2.1 hs ha (C13.ge_refl A) hOA ⟨Int.lt_trans (by decide) hpos, hw.2⟩
  rw [if_pos hw.1] at hdelta
  obtain ⟨c3, skip, hsame, heq⟩ := receivedPacket_accept_loop bunchLoop_sameN e c bits h body hd (hdelta ▸ hpos)
  rw [notifyUpdate_nothing_acked e _ h (by rw [ha, hR.1]; exact C13.gt_irrefl A)] at hsame
  obtain ⟨k1, k2, k3⟩ := ackSeq_keeps c3.notify c3.inPacketId (!skip)
  have hI : c3.inPacketId = key := by rw [hsame.inPacketId]; show c.inPacketId + c.notify.deltaSeq h = key; rw [hdelta, Int.add_comm, Int.sub_add_cancel]
  rw [heq]
  unfold RBurstC
  show c3.inPacketId = key ∧ (c3.notify.ackSeq c3.inPacketId (!skip)).outAckSeq = A ∧ (c3.notify.ackSeq c3.inPacketId (!skip)).outSeq = O ∧
    (c3.notify.ackSeq c3.inPacketId (!skip)).inSeq = c3.inPacketId % 16384
  rw [k1, k2, k3, hsame.notify, hI]
  exact ⟨rfl, hR.1, hR.2.1, hs⟩

/-- an id of the batch and a counter within the batch's range are less than half the sequence space apart -/
theorem within_window {I0 Imax k i : Int} (hwin : Imax ≤ I0 + 8191) (hnew : I0 < k) (hup : k ≤ Imax) (hlo : I0 ≤ i) (hhi : i ≤ Imax) :
    -8192 < k - i ∧ k - i < 8192 := by
  omega

theorem window_flip {a b : Int} : b - a < 8192 ↔ -8192 < a - b := by omega

/-- **one datagram of a burst, at the level of `ReceivedPacket`** (no endpoint, no bytes): whatever the header decoder says, the state is a burst state
again, and the counter either stays or - only if `key` is ahead of it - moves to exactly `key` -/
theorem receivedPacket_burst (e : Env) (c : Conn) (bits : Bits) (key A O : Int)
    (hR : RBurstC A O c)
    (hdec : ∀ h body, decodePacketHeader bits = .ok (h, body) → h.seq = key % 16384 ∧ h.ackedSeq = A)
    (hOA : seq_num_greater_than O A = true) (hw : -8192 < key - c.inPacketId ∧ key - c.inPacketId < 8192) :
    RBurstC A O (c.receivedPacket e bits).1 ∧
    ((c.receivedPacket e bits).1.inPacketId = c.inPacketId ∨ (c.inPacketId < key ∧ (c.receivedPacket e bits).1.inPacketId = key)) := by
  cases hdp : decodePacketHeader bits with
  | error reason =>
    rw [receivedPacket_error e c hdp]
    refine ⟨?_, Or.inl (markClose_inPacketId c reason)⟩
    unfold RBurstC
    rw [markClose_notify, markClose_inPacketId]
    exact hR
  | ok hb =>
    obtain ⟨h, body⟩ := hb
    obtain ⟨hs, ha⟩ := hdec h body hdp
    by_cases hk : c.inPacketId < key
    · obtain ⟨hI, hR'⟩ := receivedPacket_ahead e c bits h body key A O hR hdp hs ha hOA ⟨hk, hw.2⟩
      exact ⟨hR', Or.inr ⟨hk, hI⟩⟩
    · rw [receivedPacket_behind e c bits h body key hR.2.2 hdp hs ⟨Int.not_lt.mp hk, window_flip.mpr hw.1⟩]
      exact ⟨hR, Or.inl rfl⟩

theorem peek_burst (e : Env) (ep : Endpoint) (d : List UInt8) (key A O : Int) (hd : DataDg e d (key % 16384) A) (hR : RBurst A O ep)
    (hAA : seq_num_greater_equal A A = true) (hOA : seq_num_greater_than O A = true)
    (hw : -8192 < key - ep.c.inPacketId ∧ key - ep.c.inPacketId < 8192) :
    (ep.c.inPacketId < key → ep.peek e d = key) ∧ (key ≤ ep.c.inPacketId → ep.peek e d ≤ 0) := by
  obtain ⟨bits, s, c, rest, packed, r1, hist, r2, hri, hro, hne, hru, hrb, hseq, hack, _⟩ := hd
  have hp := peek_data e ep d bits rest r1 r2 s c packed hist hri hro hru hrb
  simp only at hp
  have hdelta := delta_burst ep.c.notify
    { seq := ((packed / 2^18 % 16384 : Nat) : Int), ackedSeq := ((packed / 16 % 16384 : Nat) : Int), words := min histWordsMax (packed % 16 + 1), hist := hist }
    ep.c.inPacketId key A O hR.2.2 hR.1 hR.2.1 hseq.symm hack.symm hAA hOA hw
  rw [hp, hdelta]
  constructor
  · intro hlt
    rw [if_pos hlt, if_neg (Int.not_le.mpr (Int.sub_pos_of_lt hlt)), Int.add_comm, Int.sub_add_cancel]
  · intro hle
    rw [if_neg (Int.not_lt.mpr hle), if_pos (Int.le_refl 0)]; decide

theorem step_burst {T} (tm : TimeOps T) (e : Env) (ep : Endpoint) (rng : Rng) (d : List UInt8) (key A O : Int)
    (hd : DataDg e d (key % 16384) A) (hR : RBurst A O ep)
    (hAA : seq_num_greater_equal A A = true) (hOA : seq_num_greater_than O A = true) (hAAn : seq_num_greater_than A A = false)
    (hw : -8192 < key - ep.c.inPacketId ∧ key - ep.c.inPacketId < 8192) :
    RBurst A O (ep.incoming tm e rng d).1 ∧
    ((ep.incoming tm e rng d).1.c.inPacketId = ep.c.inPacketId ∨
      (ep.c.inPacketId < key ∧ (ep.incoming tm e rng d).1.c.inPacketId = key)) := by
  obtain ⟨bits, s, c, rest, _, _, hdec, hinc⟩ := hd.incoming tm ep rng
  rw [hinc]
  -- `heard` touches neither the notification state nor the counter: `hR` holds of it as it stands
  exact receivedPacket_burst e (heard e ep.c s c) rest.dropLast key A O hR hdec hOA hw

/-- **a burst of genuine data datagrams is a batch**: distinct full packet ids `key d` in `(I0, I0 + 8191]`, each datagram a data datagram whose header
carries `key d mod 2^14` and acknowledges nothing new (`A` = the receiver's `OutAckSeq`; the peer sent the burst without hearing from us in between).
Partial: a batch whose acknowledgement field advances runs the ACK/NAK handlers between the datagrams and is not covered by this instance. -/
theorem burst_is_batch {T} (tm : TimeOps T) (e : Env) (key : List UInt8 → Int) (ds : List (List UInt8)) (I0 Imax A O : Int)
    (hinj : ∀ a ∈ ds, ∀ b ∈ ds, key a = key b → a = b) (hnew : ∀ d ∈ ds, I0 < key d) (hup : ∀ d ∈ ds, key d ≤ Imax) (hwin : Imax ≤ I0 + 8191)
    (hdg : ∀ d ∈ ds, DataDg e d (key d % 16384) A)
    (hAA : seq_num_greater_equal A A = true) (hOA : seq_num_greater_than O A = true) (hAAn : seq_num_greater_than A A = false) :
    Batch tm e (RBurst A O) key ds I0 Imax := by
  refine ⟨hinj, hnew, hup, ?_, ?_⟩
  · intro d hd ep hR hlo hhi
    exact peek_burst e ep d (key d) A O (hdg d hd) hR hAA hOA (within_window hwin (hnew d hd) (hup d hd) hlo hhi)
  · intro d hd ep rng hR hlo hhi
    exact step_burst tm e ep rng d (key d) A O (hdg d hd) hR hAA hOA hAAn (within_window hwin (hnew d hd) (hup d hd) hlo hhi)

/-- **C20 for a burst**: genuine data datagrams with distinct packet ids within the sequence window, arriving in ANY order through the wrapper and then
flushed, leave exactly the state that arrival in sending order leaves: same bunches delivered in the same order, same acknowledgements recorded. -/
theorem burst_reordering_invisible {T} (tm : TimeOps T) (e : Env) (key : List UInt8 → Int) (ds : List (List UInt8)) (A O : Int)
    (w0 : Wrapped) (rng : Rng) (h0 : w0.cache = []) (hI0 : 0 ≤ w0.ep.c.inPacketId)
    (hA : w0.ep.c.notify.outAckSeq = A) (hO : w0.ep.c.notify.outSeq = O) (hin : w0.ep.c.notify.inSeq = w0.ep.c.inPacketId % 16384)
    (hinj : ∀ a ∈ ds, ∀ b ∈ ds, key a = key b → a = b) (hnd : ds.Nodup)
    (hrange : ∀ d ∈ ds, w0.ep.c.inPacketId < key d ∧ key d ≤ w0.ep.c.inPacketId + 8191)
    (hdg : ∀ d ∈ ds, DataDg e d (key d % 16384) A)
    (hAA : seq_num_greater_equal A A = true) (hOA : seq_num_greater_than O A = true) (hAAn : seq_num_greater_than A A = false)
    (arr1 arr2 : List (List UInt8)) (h1 : arr1.Perm ds) (h2 : arr2.Perm ds) :
    runBatch tm e w0 rng arr1 = runBatch tm e w0 rng arr2 :=
  reordering_invisible tm e (RBurst A O) key ds (w0.ep.c.inPacketId + 8191) w0 rng h0 ⟨hA, hO, hin⟩ hI0 (by omega)
    (burst_is_batch tm e key ds _ _ A O hinj (fun d hd => (hrange d hd).1) (fun d hd => (hrange d hd).2) (Int.le_refl _) hdg hAA hOA hAAn)
    hnd arr1 arr2 h1 h2

/-! non-vacuity: concrete data datagrams (packet ids 101 and 102, both acknowledging 7) meet `DataDg`, and a receiver state is `RBurst` for them -/
def exRest (seq : Nat) : Bits := natToBits (seq * 2 ^ 18 + 7 * 16) 32 ++ List.replicate 32 false ++ [false, true]

theorem exDg (seq : Nat) (d : List UInt8) (hs : seq = 101 ∨ seq = 102)
    (hd : readInit d = some ([false, false, false, false, false, false] ++ exRest seq)) : DataDg {} d (seq % 16384) 7 := by
  refine ⟨_, 0, 0, exRest seq, seq * 2 ^ 18 + 7 * 16, List.replicate 32 false ++ [false, true], List.replicate 32 false, [false, true], hd, ?_, ?_, ?_, ?_, ?_, ?_, ?_⟩
  · rcases hs with rfl | rfl <;> rfl
  · rcases hs with rfl | rfl <;> rfl
  · rcases hs with rfl | rfl <;> rfl
  · rcases hs with rfl | rfl <;> rfl
  · rcases hs with rfl | rfl <;> decide
  · rcases hs with rfl | rfl <;> decide
  · intro h body hdec
    have hv : decodePacketHeader (exRest seq).dropLast = .ok (⟨seq, 7, 1, List.replicate 32 false⟩, []) := by
      rcases hs with rfl | rfl <;> rfl
    rw [hv] at hdec
    cases hdec
    exact ⟨by rcases hs with rfl | rfl <;> rfl, rfl⟩

example : DataDg {} [0, 28, 0, 101, 0, 0, 0, 0, 128, 1] (101 % 16384) 7 := exDg 101 _ (Or.inl rfl) (by decide)
example : DataDg {} [0, 28, 0, 102, 0, 0, 0, 0, 128, 1] (102 % 16384) 7 := exDg 102 _ (Or.inr rfl) (by decide)
example : RBurst 7 9 { c := { inPacketId := 100, notify := { inSeq := 100, outAckSeq := 7, outSeq := 9 } } } ∧
    seq_num_greater_equal 7 7 = true ∧ seq_num_greater_than 9 7 = true ∧ seq_num_greater_than 7 7 = false :=
  ⟨⟨rfl, rfl, by decide⟩, by decide, by decide, by decide⟩

end Utcp.Props.C20
