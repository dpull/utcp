import Utcp.Props.C09_Packet
import Utcp.Handshake
/-!
# C09 at the level of the byte array: `utcp_incoming` on a data datagram, end to end

What `utcp_incoming` does with the read buffer `bitbuf_read_init` hands it, for a datagram that is not a handshake datagram: `read_packet_header` (magic header,
2-bit session id, 3-bit client id, the handshake bit — each read into a small local), the test for an empty body, `bitbuf.size--` (the connection-level
terminator) and `ReceivedPacket`.  Shown equal to the bit-level model (`Endpoint.incoming`, through `dataPath`) and free of accesses outside the datagram's
valid bytes and those locals.  Together with `read_init_never_faults` / `read_init_gives_rb` (`Props/C09_Bytes.lean`) this covers every byte access of
`utcp_incoming` on the data path; the handshake branch (`ParseHandshakePacket`) is not modelled at byte level.
-/
namespace Utcp.BB
open Utcp

/-- `read_packet_header` on the byte array; `m4` is the 4-byte local `MagicHeader`, `s1`, `c1` the one-byte locals for session and client id.  (The C compares the
whole 32-bit local with the configured value; the local is zero-initialised — the repair of D13 — so that is the comparison of the bits read.) -/
def lReadOutgoingHeader (e : Env) (m4 s1 c1 : Mem) : LRd (Nat × Nat × Bool) :=
  (if e.magicBits = 0 then LRd.pure [] else lReadBitsInto m4 e.magicBits).bind fun m =>
  if e.magicBits != 0 && bitsToNat m != e.magic then LRd.failHere else
  (lReadBitsInto s1 2).bind fun s =>
  (lReadBitsInto c1 3).bind fun c =>
  lReadBit.bind fun h =>
  LRd.pure (bitsToNat s, bitsToNat c, h)

/-- the bit-level reader in monadic form -/
theorem readOutgoingHeader_eq (e : Env) : readOutgoingHeader e =
    (Utcp.readBits e.magicBits >>= fun m =>
      if e.magicBits != 0 && bitsToNat m != e.magic then Rd.failHere else
      Utcp.readBits 2 >>= fun s => Utcp.readBits 3 >>= fun c => Utcp.readBit >>= fun h => pure (bitsToNat s, bitsToNat c, h)) := by
  funext bs
  unfold readOutgoingHeader
  simp only [Rd.bind_apply]
  cases Utcp.readBits e.magicBits bs with
  | fail r => rfl
  | ok m rest =>
    simp only
    split
    · rfl
    · simp only [Rd.bind_apply]
      cases Utcp.readBits 2 rest with
      | fail r => rfl
      | ok s r1 =>
        simp only
        cases Utcp.readBits 3 r1 with
        | fail r => rfl
        | ok c r2 =>
          simp only
          cases Utcp.readBit r2 with
          | fail r => rfl
          | ok h r3 => rfl

theorem lReadOutgoingHeader_refines (e : Env) (he : e.magicBits ≤ 32) (m4 s1 c1 : Mem) (hm : BytesOK m4) (hs : BytesOK s1) (hc : BytesOK c1)
    (lm : 4 ≤ m4.length) (ls : 1 ≤ s1.length) (lc : 1 ≤ c1.length) : Refines (lReadOutgoingHeader e m4 s1 c1) (readOutgoingHeader e) := by
  rw [readOutgoingHeader_eq]
  unfold lReadOutgoingHeader
  have hmagic : Refines (if e.magicBits = 0 then LRd.pure [] else lReadBitsInto m4 e.magicBits) (Utcp.readBits e.magicBits) := by
    by_cases h0 : e.magicBits = 0
    · rw [if_pos h0, h0]
      intro b hb
      exact ⟨some [], b, rfl, hb, rfl, rfl, by simp [Utcp.readBits]⟩
    · rw [if_neg h0]
      exact lReadBitsInto_refines m4 hm _ (by omega)
  refine Refines.bind hmagic fun m => ?_
  refine Refines.ite _ Refines.failHere ?_
  refine Refines.bind (lReadBitsInto_refines s1 hs 2 ls) fun s => ?_
  refine Refines.bind (lReadBitsInto_refines c1 hc 3 lc) fun c => ?_
  exact Refines.bind lReadBit_refines fun h => Refines.pure _

/-- `utcp_incoming` behind the outgoing header of a data datagram, on bits -/
def dataPath (e : Env) (c : Conn) (session client : Nat) (rest : Bits) : Conn × Bool :=
  let c := { c with lastSessionId := session, lastClientId := client }
  if rest.isEmpty then (c, true) else
  let c := { c with lastRecvMs := e.nowMs }
  c.receivedPacket e rest.dropLast

/-- the bit-level `utcp_incoming` on a datagram that is not a handshake datagram is `dataPath` -/
theorem incoming_data_eq {T} (tm : TimeOps T) (e : Env) (rng : Rng) (ep : Endpoint) (bytes : List UInt8) (bits rest : Bits) (s cl : Nat)
    (h1 : Utcp.readInit bytes = some bits) (h2 : readOutgoingHeader e bits = .ok (s, cl, false) rest) :
    ep.incoming tm e rng bytes = ({ ep with c := (dataPath e ep.c s cl rest).1 }, rng, (dataPath e ep.c s cl rest).2) := by
  unfold Endpoint.incoming dataPath
  simp only [h1, h2, Bool.false_eq_true, if_false]
  split <;> rfl

/-- `bitbuf.size--` removes the last of the remaining bits -/
theorem rest_shrink (b : Buf) (hb : RB b) (hlt : b.num < b.size) :
    RB { b with size := b.size - 1 } ∧ rest { b with size := b.size - 1 } = (rest b).dropLast := by
  refine ⟨⟨hb.bytes, Nat.le_trans (Nat.sub_le _ 1) hb.size, Nat.le_sub_one_of_lt hlt⟩, ?_⟩
  -- `k + 1` bits are left
  obtain ⟨k, hk⟩ := Nat.exists_eq_succ_of_ne_zero (Nat.sub_ne_zero_of_lt hlt)
  show bitsFrom b.mem b.num (b.size - 1 - b.num) = (bitsFrom b.mem b.num (b.size - b.num)).dropLast
  rw [Nat.sub_right_comm, hk, Nat.succ_eq_add_one, Nat.add_sub_cancel, bitsFrom_append]
  exact (List.dropLast_concat ..).symm

/-- `utcp_incoming` from the read buffer on, on the byte array, for a data datagram (`none` as value = it is a handshake datagram: not modelled here) -/
def lIncomingData (e : Env) (c : Conn) (m4 s1 c1 fb : Mem) (nodes : Nat → Mem) (b : Buf) : Option (Option (Conn × Bool)) :=
  match lReadOutgoingHeader e m4 s1 c1 b with
  | none => none
  | some (none, _) => some (some (c.markClose crPacketHandlerIncomingError, false))
  | some (some (_, _, true), _) => some none
  | some (some (s, cl, false), b1) =>
    let c := { c with lastSessionId := s, lastClientId := cl }
    if b1.num < b1.size then
      let c := { c with lastRecvMs := e.nowMs }
      (lReceivedPacket e c fb nodes { b1 with size := b1.size - 1 }).map some
    else some (some (c, true))

/-- **`utcp_incoming` on a data datagram, on the byte array**: for every datagram image, cursor, logical end and connection state, the byte-level data path
touches no byte outside the datagram's valid bytes, its small locals and the nodes, and returns what the bit-level model returns: either the outgoing header is
refused (close reason `PacketHandlerIncomingError`), or it announces a handshake datagram, or the result is `dataPath` on the remaining bits -/
theorem lIncomingData_refines (e : Env) (he : e.magicBits ≤ 32) (c : Conn) (m4 s1 c1 fb : Mem) (hm : BytesOK m4) (hs : BytesOK s1) (hc : BytesOK c1)
    (hfb : BytesOK fb) (lm : 4 ≤ m4.length) (ls : 1 ≤ s1.length) (lc : 1 ≤ c1.length) (lfb : 1 ≤ fb.length) (nodes : Nat → Mem) (hn : NodesOK nodes)
    (b : Buf) (hb : RB b) :
    ∃ r, lIncomingData e c m4 s1 c1 fb nodes b = some r ∧
      (match readOutgoingHeader e (rest b) with
       | .fail _ => r = some (c.markClose crPacketHandlerIncomingError, false)
       | .ok (_, _, true) _ => r = none
       | .ok (s, cl, false) rst => r = some (dataPath e c s cl rst)) := by
  obtain ⟨r1, b1, h1, hrb1, _, _, hS1⟩ := lReadOutgoingHeader_refines e he m4 s1 c1 hm hs hc lm ls lc b hb
  unfold lIncomingData
  rw [h1, hS1]
  cases r1 with
  | none => exact ⟨_, rfl, rfl⟩
  | some v =>
    obtain ⟨s, cl, isHs⟩ := v
    cases isHs with
    | true => exact ⟨_, rfl, rfl⟩
    | false =>
      simp only
      unfold dataPath
      rw [rest_isEmpty b1 hrb1]
      by_cases hlt : b1.num < b1.size
      · simp only [hlt, if_true, decide_true, Bool.not_true, Bool.false_eq_true, if_false]
        obtain ⟨hrb2, hrest⟩ := rest_shrink b1 hrb1 hlt
        rw [lReceivedPacket_refines e _ fb hfb lfb nodes hn _ hrb2, hrest]
        exact ⟨_, rfl, rfl⟩
      · simp only [hlt, if_false, decide_false, Bool.not_false, if_true]
        exact ⟨_, rfl, rfl⟩

/-- **no data datagram makes `utcp_incoming` touch memory it does not own** (from the read buffer on) -/
theorem incoming_data_never_faults (e : Env) (he : e.magicBits ≤ 32) (c : Conn) (m4 s1 c1 fb : Mem) (hm : BytesOK m4) (hs : BytesOK s1) (hc : BytesOK c1)
    (hfb : BytesOK fb) (lm : 4 ≤ m4.length) (ls : 1 ≤ s1.length) (lc : 1 ≤ c1.length) (lfb : 1 ≤ fb.length) (nodes : Nat → Mem) (hn : NodesOK nodes)
    (b : Buf) (hb : RB b) : ∃ r, lIncomingData e c m4 s1 c1 fb nodes b = some r :=
  let ⟨r, h, _⟩ := lIncomingData_refines e he c m4 s1 c1 fb hm hs hc hfb lm ls lc lfb nodes hn b hb
  ⟨r, h⟩

/-! non-vacuity: zeroed locals of the sizes the C declares -/
example : BytesOK [0, 0, 0, 0] ∧ BytesOK [0] ∧ 4 ≤ [0, 0, 0, 0].length := ⟨by intro x hx; simp at hx; omega, by intro x hx; simp at hx; omega, by decide⟩

end Utcp.BB
