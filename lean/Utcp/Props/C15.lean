import Utcp.Lemmas.Conn
import Utcp.Handshake
import Utcp.Lemmas.RecvOrder
import Utcp.Lemmas.Packet
/-!
# C15 — keep-alives flow when idle; timeouts fire only after real silence

Local theorems about one endpoint under an *arbitrary* clock value: the clock enters only through
`Env.nowMs`, so every statement holds for every schedule of the virtual clock.  Over every history
(`healthy_never_times_out`): as long as some data datagram from the peer reaches the endpoint at least every 120 s, no `utcp_update`
ever finds the timeout condition true.  With `keepalive_sent` (a connected peer that flushes emits a packet at least every
200 ms + its flush period; over histories in `Props/C15_Cadence.lean`) this is why an idle, healthy link does not time out; the two
halves are not composed: the delivery of the peer's packets by the network is the assumption.
-/
namespace Utcp.Props.C15
open Utcp Utcp.Gen

theorem thresholds : keepAliveMs = 200 ∧ connectTimeoutMs = 120000 ∧ crConnectionTimeout = 6 := by decide

/-- the clock scale the model assumes is the one the code has: `utcp_gettime_ms` advances 1000 per second of
`utcp_add_elapsed_time`, `utcp_gettime` advances 1 (both extracted by running the code) -/
theorem clock_units : GETTIME_MS_AT_1S - GETTIME_MS_AT_0 = 1000 ∧ GETTIME_US_AT_1S - GETTIME_US_AT_0 = 1000000 ∧ ELAPSED_US_PER_MS_OF_NS = 1000 := by decide

/-- every emission restarts the keep-alive interval and consumes exactly one packet id -/
theorem flush_stamps (e : Env) (c : Conn) (h : c.connected = true ∧ (c.sendActive = true ∨ e.nowMs - c.lastSendMs ≥ 200)) :
    (c.flush e).lastSendMs = e.nowMs ∧ (c.flush e).outPacketId = c.outPacketId + 1 ∧ (c.flush e).sendActive = false := by
  rw [flush_of_due ((flushDue_iff e c).mpr h)]
  exact ⟨rfl, by split <;> rfl, rfl⟩

/-- **flush rule**: a flush emits a datagram iff the endpoint is connected and (something is buffered, or at
least one keep-alive interval has passed since its previous emission) -/
theorem flush_emits_iff (e : Env) (c : Conn) :
    (∃ bytes, (c.flush e).log = .out bytes :: c.log) ↔ (c.connected = true ∧ (c.sendActive = true ∨ e.nowMs - c.lastSendMs ≥ 200)) := by
  rw [← flushDue_iff]
  by_cases h : c.flushDue e = true
  · rw [flush_of_due h]
    exact iff_of_true (by split <;> exact ⟨_, rfl⟩) h
  · rw [flush_of_not_due h]
    exact iff_of_false (fun ⟨_, hb⟩ => List.cons_ne_self _ _ hb.symm) h

/-- when it does not emit, a flush changes nothing at all -/
theorem flush_idle (e : Env) (c : Conn) (h : ¬ (c.connected = true ∧ (c.sendActive = true ∨ e.nowMs - c.lastSendMs ≥ 200))) :
    c.flush e = c :=
  flush_of_not_due (mt (flushDue_iff e c).mp h)

/-- **keep-alive**: an idle connected endpoint emits on every flush that comes ≥ 200 ms after its previous emission -/
theorem keepalive_sent (e : Env) (c : Conn) (hc : c.connected = true) (hidle : c.sendActive = false) (ht : e.nowMs - c.lastSendMs ≥ 200) :
    ∃ bytes, (c.flush e).log = .out bytes :: c.log :=
  (flush_emits_iff e c).mpr ⟨hc, Or.inr ht⟩

/-- **never early**: with nothing buffered, no datagram is emitted sooner than 200 ms after the previous emission -/
theorem no_early_keepalive (e : Env) (c : Conn) (hidle : c.sendActive = false) (ht : e.nowMs - c.lastSendMs < 200) : c.flush e = c :=
  flush_idle e c (by simp [hidle]; omega)

/-- **timeout iff**: the timeout test of `utcp_update` closes a connection that is not closed yet, with reason
ConnectionTimeout, iff more than 120 s have passed since the last receive stamp — independent of the absolute
clock value (the test itself does not read `connected`; `Endpoint.update` runs it on connected endpoints only) -/
theorem timeout_iff (e : Env) (c : Conn) (hopen : c.bClose = false) :
    ((c.checkTimeout e).bClose = true ∧ (c.checkTimeout e).closeReason = 6) ↔ e.nowMs - c.lastRecvMs > 120000 := by
  by_cases h : e.nowMs - c.lastRecvMs > 120000
  · rw [checkTimeout_of_late h]
    unfold Conn.markClose
    rw [hopen]
    exact iff_of_true ⟨rfl, rfl⟩ h
  · rw [checkTimeout_of_not_late (Int.not_lt.mp h), hopen]
    exact iff_of_false (fun h' => Bool.false_ne_true h'.1) h

/-- the receive stamp of an accepted (server-side) connection is the time of the accept -/
theorem accept_stamps (e : Env) (a : Accepted) : (Endpoint.accepted e a).c.lastRecvMs = e.nowMs ∧ (Endpoint.accepted e a).c.lastSendMs = e.nowMs :=
  ⟨rfl, rfl⟩

/-- the receive stamp of a client is the time its handshake completes (never the process start): a client
whose handshake completes at any clock value does not time out for the next 120 s -/
theorem connect_stamps (e : Env) (ep : Endpoint) (ch : Challenge) (hs : HsData) :
    (ep.onAck e ch hs).c.lastRecvMs = e.nowMs ∧ (ep.onAck e ch hs).c.lastSendMs = e.nowMs ∧ (ep.onAck e ch hs).c.connected = true :=
  ⟨rfl, rfl, rfl⟩

/-- a challenge ack completes the handshake of a client that is waiting for it (`connect_stamps` says what that stamps) -/
theorem ack_completes {T} (tm : TimeOps T) (e : Env) (rng : Rng) (ep : Endpoint) (hs : HsData) (cid : Nat) (ch : Challenge)
    (hch : ep.chal = some ch) (hst : ch.state = stUnInit ∨ ch.state = stLocal) (hr : hs.restart = false)
    (hnc : (hs.ptype == ptChallenge && tm.gt0 (tm.ofBits hs.ts)) = false) (hack : (hs.ptype == ptAck && tm.lt0 (tm.ofBits hs.ts)) = true) :
    ep.handshakeIncoming tm e rng hs cid = (ep.onAck e ch hs, rng, 0) := by
  rw [handshakeIncoming_pending tm e rng ep ch hs cid hch hst hr, hnc, hack, if_neg Bool.false_ne_true, if_pos rfl]

/-- a data datagram refreshes the receive stamp -/
theorem data_stamps {T} (tm : TimeOps T) (e : Env) (rng : Rng) (ep : Endpoint) (bytes : List UInt8) (bits : Bits) (s cl : Nat) (rest : Bits)
    (h1 : readInit bytes = some bits) (h2 : readOutgoingHeader e bits = .ok (s, cl, false) rest) (h3 : rest ≠ []) :
    ∃ c0 : Conn, c0.lastRecvMs = e.nowMs ∧ (ep.incoming tm e rng bytes).1.c = (c0.receivedPacket e rest.dropLast).1 := by
  rw [incoming_data tm e ep rng bytes bits rest s cl h1 h2 (List.isEmpty_eq_false_iff.mpr h3)]
  exact ⟨heard e ep.c s cl, rfl, rfl⟩

/-- what happens to a connected endpoint -/
inductive Op where
  | send (b : Bunch)
  | flush
  /-- a data datagram with a non-empty body `bits` arrives (`utcp_incoming` stamps the receive time, then `ReceivedPacket`) -/
  | data (bits : Bits)
  | update

def apply (e : Env) (c : Conn) : Op → Conn
  | .send b => (c.sendBunch e b).1
  | .flush => c.flush e
  | .data bits => (({ c with lastRecvMs := e.nowMs } : Conn).receivedPacket e bits).1
  | .update => (c.checkTimeout e).updateTail.1

/-- the number of `update` calls in a history at which the timeout condition was true -/
def timeouts (c : Conn) : List (Env × Op) → Nat
  | [] => 0
  | (e, .update) :: rest => (if e.nowMs - c.lastRecvMs > 120000 then 1 else 0) + timeouts (apply e c .update) rest
  | (e, op) :: rest => timeouts (apply e c op) rest

/-- the schedule hypothesis: at every `update`, the most recent arrival (or the initial stamp `t`) is at most 120 s old -/
def Fresh (t : Int) : List (Env × Op) → Prop
  | [] => True
  | (e, .data _) :: rest => Fresh e.nowMs rest
  | (e, .update) :: rest => e.nowMs - t ≤ 120000 ∧ Fresh t rest
  | (_, _) :: rest => Fresh t rest

/-- nothing in the data path writes the receive stamp (`utcp_incoming` does, before it calls `ReceivedPacket`) -/
theorem lastRecv_aclosed (e : Env) : AClosed e (fun c c' => c'.lastRecvMs = c.lastRecvMs) :=
  .of_flushNow (fun _ => rfl) (fun h1 h2 => h2.trans h1) (fun _ _ => rfl) (fun _ _ _ _ h _ _ => h)

theorem apply_lastRecv (e : Env) (c : Conn) (op : Op) :
    (apply e c op).lastRecvMs = (match op with | .data _ => e.nowMs | _ => c.lastRecvMs) := by
  cases op with
  | send b => exact (lastRecv_aclosed e).sendBunch c b
  | flush => exact (lastRecv_aclosed e).flush c
  | data bits => exact (lastRecv_aclosed e).receivedPacket _ bits
  | update => exact (lastRecv_aclosed e).update c

/-- **an endpoint that keeps hearing from its peer never times out**: if at every `update` of a history the most recent data
datagram arrived at most 120 s earlier (any datagram with a non-empty body counts, also a stale or damaged one), the timeout
condition is false at every one of those updates — for every interleaving with sends, flushes and arrivals, and every clock -/
theorem healthy_never_times_out (ops : List (Env × Op)) : ∀ c : Conn, Fresh c.lastRecvMs ops → timeouts c ops = 0 := by
  induction ops with
  | nil => intro c _; rfl
  | cons p rest ih =>
    intro c h
    obtain ⟨e, op⟩ := p
    have hl := apply_lastRecv e c op
    cases op with
    | update =>
      simp only [Fresh] at h
      simp only [timeouts]
      have : ¬ (e.nowMs - c.lastRecvMs > 120000) := by omega
      simp only [this, if_false, Nat.zero_add]
      exact ih _ (by rw [hl]; exact h.2)
    | _ => simp only [timeouts]; exact ih _ (by simp only [Fresh] at h; rw [hl]; exact h)

/-- at an update at most 120 s after the receive stamp the timeout test leaves the connection exactly as it was -/
theorem fresh_update_is_tail (e : Env) (c : Conn) (h : e.nowMs - c.lastRecvMs ≤ 120000) : apply e c .update = c.updateTail.1 := by
  show (c.checkTimeout e).updateTail.1 = _
  rw [checkTimeout_of_not_late h]

/-! non-vacuity -/
example : (({ connected := true, lastSendMs := 1000 } : Conn).flush { elapsedUs := 200000 }).outPacketId = 1 := by decide
example : (({ connected := true, lastSendMs := 1000 } : Conn).flush { elapsedUs := 199000 }).outPacketId = 0 := by decide
example : Fresh 1000 [({ elapsedUs := 100000000 }, .update), ({ elapsedUs := 110000000 }, .data [true]), ({ elapsedUs := 220000000 }, .update)] := by
  simp [Fresh, Env.nowMs, utcp_gettime_ms]

end Utcp.Props.C15
