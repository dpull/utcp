import Utcp.Props.C15
/-! # C15, continued: keep-alives flow over every history (the sender's half of "an idle healthy link never times out") -/
namespace Utcp.Props.C15
open Utcp Utcp.Gen

/-- across a step at clock `e`: still (dis)connected as before, and the send stamp is the old one or the clock of the step -/
def LS (e : Env) (c c' : Conn) : Prop := c'.connected = c.connected ∧ (c'.lastSendMs = c.lastSendMs ∨ c'.lastSendMs = e.nowMs)

theorem LS.of_eq {e : Env} {c c' : Conn} (h1 : c'.connected = c.connected) (h2 : c'.lastSendMs = c.lastSendMs) : LS e c c' := ⟨h1, Or.inl h2⟩

/-- only `flushNow` writes the send stamp, and it writes the clock -/
theorem ls_aclosed (e : Env) : AClosed e (LS e) :=
  .of_flushNow (fun _ => .of_eq rfl rfl)
    (fun h1 h2 => ⟨h2.1.trans h1.1, h2.2.elim (fun h => h1.2.elim (fun g => .inl (h.trans g)) (fun g => .inr (h.trans g))) .inr⟩)
    (fun _ _ => ⟨rfl, Or.inr rfl⟩) (fun _ _ _ _ _ h1 h2 => .of_eq h1 h2)

theorem apply_ls (e : Env) (c : Conn) (op : Op) : LS e c (apply e c op) := by
  cases op with
  | send b => exact (ls_aclosed e).sendBunch c b
  | flush => exact (ls_aclosed e).flush c
  | data bits => exact (ls_aclosed e).trans (.of_eq rfl rfl : LS e c ({ c with lastRecvMs := e.nowMs } : Conn)) ((ls_aclosed e).receivedPacket _ bits)
  | update => exact (ls_aclosed e).update c

/-- a history whose clock never runs backwards (`t` = the clock before it) -/
def Mono (t : Int) : List (Env × Op) → Prop
  | [] => True
  | (e, _) :: rest => t ≤ e.nowMs ∧ Mono e.nowMs rest

/-- at every flush of the history, when it returns, the endpoint's last emission is less than one keep-alive interval old -/
def FlushFresh (c : Conn) : List (Env × Op) → Prop
  | [] => True
  | (e, .flush) :: rest => (0 ≤ e.nowMs - (apply e c .flush).lastSendMs ∧ e.nowMs - (apply e c .flush).lastSendMs < 200) ∧ FlushFresh (apply e c .flush) rest
  | (e, op) :: rest => FlushFresh (apply e c op) rest

/-- **keep-alives flow**: over every history of a connected endpoint with a clock that does not run backwards (sends, flushes, arrivals with whatever
they trigger, updates, in any interleaving) each flush returns with the last emission less than 200 ms old - it has either just emitted or had emitted
less than 200 ms before.  With flushes at most `G` apart the gaps between emissions are therefore below `200 ms + G`. -/
theorem keepalives_flow (ops : List (Env × Op)) : ∀ (c : Conn) (t : Int), c.connected = true → c.lastSendMs ≤ t → Mono t ops → FlushFresh c ops := by
  induction ops with
  | nil => intro c t _ _ _; trivial
  | cons p rest ih =>
    intro c t hc hl hm
    obtain ⟨e, op⟩ := p
    obtain ⟨hte, hmr⟩ := hm
    have hls := apply_ls e c op
    have hc' : (apply e c op).connected = true := by rw [hls.1]; exact hc
    have hl' : (apply e c op).lastSendMs ≤ e.nowMs := by
      rcases hls.2 with h | h
      · rw [h]; exact Int.le_trans hl hte
      · rw [h]; exact Int.le_refl _
    cases op with
    | flush =>
      simp only [FlushFresh]
      refine ⟨⟨Int.sub_nonneg_of_le hl', ?_⟩, ih _ _ hc' hl' hmr⟩
      show e.nowMs - (c.flush e).lastSendMs < 200
      by_cases hdue : c.connected = true ∧ (c.sendActive = true ∨ e.nowMs - c.lastSendMs ≥ 200)
      · rw [(flush_stamps e c hdue).1, Int.sub_self]; decide
      · rw [flush_idle e c hdue]
        exact Int.not_le.mp fun h => hdue ⟨hc, Or.inr h⟩
    | _ => simp only [FlushFresh]; exact ih _ _ hc' hl' hmr

/-! non-vacuity: a connected endpoint, a monotone clock -/
example : Mono 1000 [({ elapsedUs := 100000 }, .flush), ({ elapsedUs := 350000 }, .update), ({ elapsedUs := 350000 }, .flush)] := by
  simp [Mono, Env.nowMs, utcp_gettime_ms]

end Utcp.Props.C15
