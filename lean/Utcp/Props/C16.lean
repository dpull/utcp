import Utcp.Lemmas.Log
import Utcp.Handshake
import Utcp.Lemmas.Balance
import Utcp.Props.C18
/-!
# C16 — all memory is returned; acknowledged data is not retained

The model emits an `alloc k` / `free k` event at exactly the places the C code calls `utcp_realloc` (the
correspondence runs compare these event streams op by op with the allocator callback of the real code).

* **one call, any state** (first half): freeing a channel emits exactly one `free` per block it holds, whatever its state
  (`freeChan_log`); an ACK releases only records of the acknowledged packet (`removeOutgoing_partition`); destroying an endpoint
  returns the connection block and, if it holds one, the challenge block (`destroy_frees_conn`).
* **every history** (`Lemmas/Balance.lean`, second half): the balance invariant `BInvK` — bunch nodes obtained minus released =
  nodes held in the three lists of the open channels; channel blocks obtained minus released = open channels; the open-channel
  array is allocated iff its capacity is non-zero; the channel table is sorted without duplicates — holds after
  `utcp_sequence_init` and is preserved by every operation of a connected endpoint (`C18.Op`: send of any bunch, flush,
  `ReceivedPacket` on any bit string with everything the ACKs and NAKs in it trigger, update with its deferred channel teardown).
  Hence, **after any history, teardown leaves every balance at zero** (`teardown_returns_everything`: the *prefix* quantifier of the
  property is the universally quantified history) and **a quiescent connection holds no bunch buffer** (`quiescent_holds_nothing`).
Not expressible in the model: block *identities* (the events are anonymous, so "exactly once" is a balance, not a per-pointer
statement), use-after-free; these are observed (unknown-pointer / double-free detection in the harness allocator, ASan, `live 0`
after every teardown and after every prefix).
-/
namespace Utcp.Props.C16
open Utcp Utcp.Gen

def frees (k : Kind) (evs : List Event) : Nat := (evs.filter fun ev => ev == .free k).length

/-- blocks a channel holds besides itself -/
def Channel.nodes (x : Channel) : Nat := x.inRec.length + x.outRec.length + x.inPartial.length

theorem replicate_snoc {α} (k : Nat) (a : α) (l : List α) : List.replicate k a ++ a :: l = a :: (List.replicate k a ++ l) := by
  induction k with
  | zero => rfl
  | succ k ih => simp [List.replicate_succ, ih]

/-- **`free_utcp_channel` returns everything the channel holds**: one `free node` per queued / retained / half-assembled
bunch, then the channel block itself -/
theorem freeChan_log (c : Conn) (x : Channel) :
    (c.freeChan x).log = .free .chan :: (List.replicate (Channel.nodes x) (.free .node) ++ c.log) := by
  rw [freeChan_eq]; rfl

/-- an ACK releases only retransmission records of that packet: every released record carries the acknowledged id, and released
and kept records together are as many as there were -/
theorem removeOutgoing_partition (pid : Int) (l : List OutNode) :
    (removeOutgoing pid l).1.length + (removeOutgoing pid l).2.length = l.length ∧ (∀ n ∈ (removeOutgoing pid l).1, n.packetId = pid) :=
  ⟨removeOutgoing_lengths pid l, removeOutgoing_pid pid l⟩

/-- once every record of a channel has been acknowledged nothing is retained for retransmission -/
theorem removeOutgoing_all (pid : Int) (l : List OutNode) (h : ∀ n ∈ l, n.packetId = pid) : (removeOutgoing pid l).2 = [] := by
  induction l with
  | nil => simp [removeOutgoing]
  | cons n rest ih =>
    unfold removeOutgoing
    have hn : (n.packetId == pid) = true := by simp [h n List.mem_cons_self]
    simp only [hn, if_true]
    exact ih (fun m hm => h m (List.mem_cons_of_mem _ hm))

/-- teardown of a connection object: the connection block is returned last, right after the challenge block when the endpoint holds one
(client); when it holds none, no challenge block is returned -/
theorem destroy_frees_conn (ep : Endpoint) :
    ∃ evs, (ep.destroy).c.log = .free .conn :: evs ∧ (ep.destroy).chal = none ∧
      ((ep.chal.isSome = true → ∃ evs', evs = .free .chal :: evs') ∧ (ep.chal.isSome = false → ∀ ev ∈ evs, ev ≠ .free .chal ∨ ev ∈ ep.c.log)) := by
  unfold Endpoint.destroy
  refine ⟨_, rfl, rfl, ?_, ?_⟩
  · intro h; simp only [h, if_true, emit_log]; exact ⟨_, rfl⟩
  · intro h
    simp only [h, Bool.false_eq_true, if_false]
    intro ev hev
    unfold Conn.uninitChans at hev
    simp only at hev
    by_cases he : ev = .free .chal
    · right
      subst he
      -- frees emitted by the channel teardown are `free node` / `free chan` / `free open`, never `free chal`
      have key : ∀ (l : List (Nat × Channel)) (c : Conn), Event.free Kind.chal ∈ (l.foldl (fun c p => c.freeChan p.2) c).log → Event.free Kind.chal ∈ c.log := by
        intro l
        induction l with
        | nil => intro c h; exact h
        | cons p rest ih =>
          intro c h
          have := ih _ h
          rw [freeChan_log] at this
          simp only [List.mem_cons, List.mem_append, List.mem_replicate] at this
          rcases this with h1 | ⟨_, h1⟩ | h1
          · cases h1
          · cases h1
          · exact h1
      split at hev
      · simp only [emit_log, List.mem_cons] at hev
        rcases hev with h1 | h1
        · cases h1
        · have := key _ _ h1; rw [markClose_log] at this; exact this
      · have := key _ _ hev; rw [markClose_log] at this; exact this
    · left; exact he

example : (({} : Conn).freeChan { inRec := [{}], outRec := [{ packetId := 1, bits := [] }, { packetId := 2, bits := [] }] }).log
    = [.free .chan, .free .node, .free .node, .free .node] := by decide

theorem step_balance (e : Env) (c : Conn) (op : C18.Op) (h : BInvK c 0) : BInvK (C18.apply e c op) 0 := by
  cases op with
  | send b => exact sendBunch_bal e c b h
  | flush => exact (bkeep_bclosed e).flush c 0 h
  | recv bits => exact receivedPacket_bal e c bits h
  | update => exact update_bal e c h

theorem run_balance (ops : List (Env × C18.Op)) : ∀ c : Conn, BInvK c 0 → BInvK (C18.run c ops) 0 :=
  C18.run_pres step_balance ops

theorem fresh_balance (i o : Int) : BInvK (({} : Conn).seqInit i o) 0 := fresh_bal _ rfl rfl rfl

/-- **teardown after every prefix of every history**: whatever the connection has been through — bunches awaiting ack,
out-of-order bunches queued, a group half assembled, open or closed channels — `utcp_channels_uninit` leaves the balance of bunch
nodes, of channel blocks and of the open-channel array at zero -/
theorem teardown_returns_everything (ops : List (Env × C18.Op)) (c : Conn) (h : BInvK c 0) :
    balK .node (C18.run c ops).uninitChans.log = 0 ∧ balK .chan (C18.run c ops).uninitChans.log = 0 ∧
    balK .open_ (C18.run c ops).uninitChans.log = 0 :=
  uninitChans_balanced _ (run_balance ops c h)

/-- **no retention**: while the connection lives, once nothing awaits acknowledgement, nothing is queued out of order and no
group is half assembled, every bunch node ever obtained has been released -/
theorem quiescent_holds_nothing (c : Conn) (h : BInvK c 0)
    (hq : ∀ p ∈ c.chans, p.2.inRec = [] ∧ p.2.outRec = [] ∧ p.2.inPartial = []) : balK .node c.log = 0 := by
  rw [h.node, Int.add_zero]
  generalize c.chans = l at hq
  induction l with
  | nil => rfl
  | cons p rest ih =>
    obtain ⟨h1, h2, h3⟩ := hq p List.mem_cons_self
    rw [held_cons, ih fun q hq' => hq q (List.mem_cons_of_mem _ hq'), nodesOf, h1, h2, h3]; rfl

/-- memory does not grow with traffic: at every point of every history the number of live bunch nodes is exactly the number of
bunches in the channels' lists -/
theorem live_nodes_are_held (ops : List (Env × C18.Op)) (c : Conn) (h : BInvK c 0) :
    balK .node (C18.run c ops).log = held (C18.run c ops).chans :=
  (run_balance ops c h).node.trans (Int.add_zero _)

example : BInvK (C18.run (({} : Conn).seqInit 7 16383) [({}, .send { chIndex := 1, bOpen := true, bReliable := true, data := [true] }), ({}, .flush), ({}, .update)]) 0 :=
  run_balance _ _ (fresh_balance 7 16383)

end Utcp.Props.C16
