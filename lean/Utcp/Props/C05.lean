import Utcp.Handshake
import Utcp.Props.C13
import Utcp.Lemmas.HsFlow
import Utcp.Lemmas.Mirror
/-!
# C05 — handshake completes despite loss / duplication / reordering, ends agree

Agreement: the sequence numbers both ends derive from the cookie mirror each other, so the first data packet in each
direction passes the acceptance test; a connected client ignores every further (duplicate, delayed, replayed) challenge
or ack, so it reports connected once.  Completion over a fault-free suffix: the fault-free exchange of four datagrams connects both
ends, for every parameter (`fault_free_completion`), and so does every retransmission of a pending client — whatever was lost,
duplicated or reordered before — once the network delivers (`retry_initial_completes`, `retry_response_completes`, one of which always
applies: `retry_cases`).  The time conditions are hypotheses on the time algebra (`Timely`), discharged for exact integer time
(`timely_exact`).  Not proved: interleavings in which stale datagrams arrive *during* the final exchange, that the Float time the
driver runs orders values as exact time does (assumed), and that `update` is called at all; the first and the last are explored by the
handshake correspondence sessions (every fate assignment for the first six datagrams in the thorough tier) and their monitor.
-/
namespace Utcp.Props.C05
open Utcp Utcp.Gen

theorem seqFromCookie_range (ck : List UInt8) (i : Nat) : 0 ≤ seqFromCookie ck i ∧ seqFromCookie ck i < 16384 := by
  unfold seqFromCookie
  constructor
  · exact Int.natCast_nonneg _
  · have : ((ck.getD (2 * i) 0).toNat + 256 * (ck.getD (2 * i + 1) 0).toNat) % 16384 < 16384 := Nat.mod_lt _ (by decide)
    omega

/-- the connection the server creates when the listener reports the acceptance of `cookie` -/
def serverSide (e : Env) (addr : String) (cookie : List UInt8) : Endpoint :=
  Endpoint.accepted e { addr := addr, restarted := false, cookie := cookie, serverSeq := seqFromCookie cookie 0, clientSeq := seqFromCookie cookie 1 }

/-- the client after the ack carrying `cookie` -/
def clientSide (e : Env) (ep : Endpoint) (ch : Challenge) (cookie : List UInt8) : Endpoint :=
  ep.onAck e { ch with restarted := false } { cookie := cookie }

theorem onAck_clientSide (e : Env) (ep : Endpoint) (ch : Challenge) (hs : HsData) (hr : ch.restarted = false) :
    (ep.onAck e ch hs).c = (clientSide e ep ch hs.cookie).c := by
  unfold clientSide Endpoint.onAck
  rw [hr]

/-- **the ends agree** on packet ids and initial channel sequences: each side's outgoing numbering is the other
side's incoming numbering, for every cookie value (0, 16383 and everything between) -/
theorem agree (e e' : Env) (addr : String) (ep : Endpoint) (ch : Challenge) (cookie : List UInt8) :
    let s := (serverSide e addr cookie).c
    let c := (clientSide e' ep ch cookie).c
    s.outPacketId = c.inPacketId + 1 ∧ c.outPacketId = s.inPacketId + 1 ∧
    s.initOutReliable = c.initInReliable ∧ c.initOutReliable = s.initInReliable ∧
    s.notify.outSeq = seq_num_inc c.notify.inSeq 1 ∧ c.notify.outSeq = seq_num_inc s.notify.inSeq 1 ∧
    s.cookie = c.cookie := by
  obtain ⟨s1, s2, s3⟩ := seqInit_mirror (({} : Conn).emit (.alloc .conn)) ep.c (seqFromCookie cookie 0) (seqFromCookie cookie 1)
  obtain ⟨c1, c2, c3⟩ := seqInit_mirror ep.c (({} : Conn).emit (.alloc .conn)) (seqFromCookie cookie 1) (seqFromCookie cookie 0)
  exact ⟨s1, c1, s2, c2, s3, c3, rfl⟩

/-- **the first data packet in each direction is accepted**: the header a freshly connected end writes passes the
peer's acceptance test with sequence delta 1 -/
theorem first_packet_accepted (e e' : Env) (addr : String) (ep : Endpoint) (ch : Challenge) (cookie : List UInt8) (w w' : Nat) :
    let s := (serverSide e addr cookie).c
    let c := (clientSide e' ep ch cookie).c
    s.notify.deltaSeq (c.notify.headerWith w) = 1 ∧ c.notify.deltaSeq (s.notify.headerWith w') = 1 :=
  ⟨seqInit_first_accepted _ ep.c (seqFromCookie cookie 0) (seqFromCookie cookie 1) w,
    seqInit_first_accepted ep.c _ (seqFromCookie cookie 1) (seqFromCookie cookie 0) w'⟩

/-- **connected once**: a client whose handshake has completed ignores every further handshake datagram that is
not a restart request — duplicated, delayed or replayed challenges and acks cause no event and no state change -/
theorem connected_client_ignores {T} (tm : TimeOps T) (e : Env) (rng : Rng) (ep : Endpoint) (ch : Challenge) (hs : HsData) (cid : Nat)
    (hch : ep.chal = some ch) (hst : ch.state = stInit) (hr : hs.restart = false) :
    ep.handshakeIncoming tm e rng hs cid = (ep, rng, 0) := by
  unfold Endpoint.handshakeIncoming
  have h1 : (ch.state == stUnInit || ch.state == stLocal) = false := by rw [hst]; decide
  simp [hch, h1, hr]

/-- completing the handshake puts the client into the connected state (`stInit`) and reports `connect` exactly once -/
theorem onAck_state (e : Env) (ep : Endpoint) (ch : Challenge) (hs : HsData) :
    (ep.onAck e ch hs).chal.map (·.state) = some stInit ∧ (ep.onAck e ch hs).c.connected = true ∧
    ∃ c0 : Conn, (ep.onAck e ch hs).c.log = .connect ch.restarted :: c0.log ∧ c0.log = ep.c.log := by
  refine ⟨rfl, rfl, ep.c, ?_, rfl⟩
  unfold Endpoint.onAck
  cases ch.restarted <;> rfl

/-- the server-side connection answers a stray handshake packet by re-sending the ack in the *sender's* protocol
version (the repair of defect D3), and nothing else changes -/
theorem server_resends_ack {T} (tm : TimeOps T) (e : Env) (rng : Rng) (ep : Endpoint) (hs : HsData) (cid : Nat) (hch : ep.chal = none) :
    ∃ pkt rng', ep.handshakeIncoming tm e rng hs cid = (ep.out pkt, rng', 0) ∧
      (capHandshake e rng hs.curVer (hsPacket e hs.curVer (e.travel % 4) cid false ptAck hs.sentCount hs.netVer true 0xBFF0000000000000 ep.c.cookie [])) = (rng', pkt) := by
  unfold Endpoint.handshakeIncoming Endpoint.resendAck
  simp only [hch]
  exact ⟨_, _, rfl, rfl⟩

/-- the process-global configuration at clock reading `t` -/
def at_ (cfg : Env) (t : Int) : Env := { cfg with elapsedUs := t }

def lastOut (ep : Endpoint) : Option (List UInt8) :=
  match ep.c.log with
  | .out d :: _ => some d
  | _ => none

/-- second half of the exchange, executable: the client's newest datagram (a response) reaches the listener at `t4`; the application
creates the server-side connection when the listener reports the acceptance; the listener's answer reaches the client at `t5`.
Result: final client, server-side connection, the acceptance; `none` if a step does not produce what the next one needs. -/
def finish {T} (tm : TimeOps T) (mac : Mac) (cfg : Env) (t4 t5 : Int) (rA rL : Rng) (ep2 : Endpoint) (l : LState T) (addr : String) :
    Option (Endpoint × Endpoint × Accepted) :=
  match lastOut ep2 with
  | none => none
  | some d3 =>
    let r4 := l.react tm mac (at_ cfg t4) rL addr d3
    match r4.acc, r4.evs with
    | some acc, [.accept _ _, .out d4] =>
      let s5 := ep2.incoming tm (at_ cfg t5) rA d4
      some (s5.1, Endpoint.accepted (at_ cfg t4) acc, acc)
    | _, _ => none

/-- the exchange from an initial packet on: the client's newest datagram reaches the listener at `t2`, the listener's answer reaches the
client at `t3`, then `finish` -/
def fromInitial {T} (tm : TimeOps T) (mac : Mac) (cfg : Env) (t2 t3 t4 t5 : Int) (rA rL : Rng) (ep1 : Endpoint) (l : LState T) (addr : String) :
    Option (Endpoint × Endpoint × Accepted) :=
  match lastOut ep1 with
  | none => none
  | some d1 =>
    let r2 := l.react tm mac (at_ cfg t2) rL addr d1
    match r2.evs with
    | [.out d2] =>
      let s3 := ep1.incoming tm (at_ cfg t3) rA d2
      finish tm mac cfg t4 t5 s3.2.1 r2.rng s3.1 r2.st addr
    | _ => none

/-- **the exchange**: the client connects at `t1`; each datagram an end emits is handed, unchanged, to the other end -/
def exchange {T} (tm : TimeOps T) (mac : Mac) (cfg : Env) (t1 t2 t3 t4 t5 : Int) (rA rB : Rng) (counter : Nat)
    (ep0 : Endpoint) (l : LState T) (addr : String) : Option (Endpoint × Endpoint × Accepted) :=
  let s1 := ep0.connect (at_ cfg t1) rA counter
  fromInitial tm mac cfg t2 t3 t4 t5 s1.2.1 rB s1.1 l addr

/-- what "the handshake completed and the ends agree" means for the result of an exchange that started with the client's log at `base`:
one acceptance, for this address, not a restart; the client is connected, reported `connect` exactly once and otherwise only emitted
datagrams; the two connections agree on packet ids, initial channel sequences, ack sequence numbers and cookie -/
def Completes (addr : String) (base : List Event) (r : Option (Endpoint × Endpoint × Accepted)) : Prop :=
  ∃ cl sv acc, r = some (cl, sv, acc) ∧
    acc.addr = addr ∧ acc.restarted = false ∧
    cl.c.connected = true ∧ cl.chal.map (·.state) = some stInit ∧
    (∃ mid, (∀ ev ∈ mid, ∃ d, ev = .out d) ∧ cl.c.log = .connect false :: (mid ++ base)) ∧
    sv.c.outPacketId = cl.c.inPacketId + 1 ∧ cl.c.outPacketId = sv.c.inPacketId + 1 ∧
    sv.c.initOutReliable = cl.c.initInReliable ∧ cl.c.initOutReliable = sv.c.initInReliable ∧
    sv.c.notify.outSeq = seq_num_inc cl.c.notify.inSeq 1 ∧ cl.c.notify.outSeq = seq_num_inc sv.c.notify.inSeq 1 ∧
    sv.c.cookie = cl.c.cookie ∧ cl.c.cookie = acc.cookie

/-- **from a response on**: a pending client whose newest datagram is a response carrying a cookie this listener state issues for this
address, arriving while the cookie is alive, is accepted, and the ack connects it -/
theorem finish_completes {T} (tm : TimeOps T) (mac : Mac) (cfg : Env) (t3 t4 t5 : Int) (rA rL r0 : Rng) (ep2 : Endpoint) (ch2 : Challenge)
    (l : LState T) (addr : String) (cid cnt : Nat) (sid : Bool) (ts : UInt64)
    (hm : cfg.magic < 2 ^ cfg.magicBits) (hck : cfg.checksum < 4294967296) (hmac : ∀ k m, (mac k m).length = 20) (ha : addr.isEmpty = false)
    (hch : ep2.chal = some ch2) (hst : ch2.state = stUnInit ∨ ch2.state = stLocal) (hr : ch2.restarted = false) (hcnt : cnt < 256)
    (hout : lastOut ep2 = some (bitsBytes (responsePktG (at_ cfg t3) r0 cid cnt sid ts (l.cookie mac addr sid ts)).2))
    (hlife : LState.validLife tm (at_ cfg t4) (responseDataG (at_ cfg t3) cnt sid ts (l.cookie mac addr sid ts)) = true)
    (hsec : l.validSecret tm (responseDataG (at_ cfg t3) cnt sid ts (l.cookie mac addr sid ts)) = true)
    (hneg : tm.lt0 (tm.ofBits 0xBFF0000000000000) = true) :
    Completes addr ep2.c.log (finish tm mac cfg t4 t5 rA rL ep2 l addr) := by
  generalize hc : l.cookie mac addr sid ts = ck at hout hlife hsec
  have h4 := react_responsePkt tm mac (at_ cfg t4) (at_ cfg t3) rL r0 l addr cid cnt sid ts ck rfl hm hck hmac hcnt ha hc.symm hlife hsec
  have h5 := incoming_ackPkt tm (at_ cfg t5) (at_ cfg t4) rA rL ep2 ch2 (cid % 8) (responseDataG (at_ cfg t3) cnt sid ts ck) rfl hm rfl rfl
    (by rw [← hc]; exact hmac _ _) hcnt hck hch hst hneg
  obtain ⟨a1, a2, a3, a4, a5, a6, a7⟩ := agree (at_ cfg t4) (at_ cfg t5) addr ep2 ch2 ck
  obtain ⟨o1, o2, c0, o3, o4⟩ := onAck_state (at_ cfg t5) ep2 ch2 (ackData (responseDataG (at_ cfg t3) cnt sid ts ck))
  rw [hr, o4] at o3
  unfold Completes finish
  simp only [hout, h4, h5]
  refine ⟨_, _, _, rfl, rfl, rfl, o2, o1, ⟨[], by simp, o3⟩, ?_⟩
  rw [onAck_clientSide _ _ _ _ hr]
  exact ⟨a1, a2, a3, a4, a5, a6, a7, rfl⟩

/-- the cookie lifetime test, for a cookie issued at clock reading `issued` and presented at `now` -/
def lifeOk {T} (tm : TimeOps T) (issued now : Int) : Bool :=
  tm.ge0 (tm.sub (tm.now now) (tm.ofBits (tm.toBits (tm.now issued)))) &&
  tm.gt0 (tm.lifeLeft (tm.sub (tm.now now) (tm.ofBits (tm.toBits (tm.now issued)))))

/-- the secret-id-versus-rotation-time test, for a cookie issued at `issued` under the then active secret -/
def secretOk {T} (tm : TimeOps T) (l : LState T) (issued : Int) : Bool :=
  if (if (l.active != 0) then 1 else 0) == l.active then tm.ge0 (tm.sub (tm.ofBits (tm.toBits (tm.now issued))) l.lastSecretUpdate)
  else tm.le0 (tm.sub (tm.ofBits (tm.toBits (tm.now issued))) l.lastSecretUpdate)

/-- what the time algebra has to satisfy for the exchange at these clock readings: zero is zero, the ack's −1.0 is negative, the
challenge timestamp is positive, and the response arrives within the cookie's lifetime with no secret rotation in between -/
structure Timely {T} (tm : TimeOps T) (l : LState T) (t2 t4 : Int) : Prop where
  zero : tm.isZero (tm.ofBits 0) = true
  ackNeg : tm.lt0 (tm.ofBits 0xBFF0000000000000) = true
  chalPos : tm.gt0 (tm.ofBits (tm.toBits (tm.now t2))) = true
  life : lifeOk tm t2 t4 = true
  secret : secretOk tm l t2 = true

/-- **from an initial packet on**: a pending client whose newest datagram is an initial packet gets a challenge, answers it, is accepted
and connected -/
theorem fromInitial_completes {T} (tm : TimeOps T) (mac : Mac) (cfg : Env) (t1 t2 t3 t4 t5 : Int) (rA rL r0 : Rng) (ep1 : Endpoint) (ch1 : Challenge)
    (l : LState T) (addr : String) (cid cnt : Nat)
    (hm : cfg.magic < 2 ^ cfg.magicBits) (hck : cfg.checksum < 4294967296) (hmac : ∀ k m, (mac k m).length = 20) (ha : addr.isEmpty = false)
    (hch : ep1.chal = some ch1) (hst : ch1.state = stUnInit ∨ ch1.state = stLocal) (hr : ch1.restarted = false) (hsc : ch1.sentCount < 256)
    (hcnt : cnt < 256) (hout : lastOut ep1 = some (bitsBytes (initialPkt (at_ cfg t1) r0 cid cnt).2))
    (ht : Timely tm l t2 t4) :
    ∃ d3, Completes addr (.out d3 :: ep1.c.log) (fromInitial tm mac cfg t2 t3 t4 t5 rA rL ep1 l addr) := by
  have h2 := react_initialPkt tm mac (at_ cfg t2) (at_ cfg t1) rL r0 l addr cid cnt rfl hm hck hcnt ht.zero ha
  have h3 := incoming_challengePkt tm mac (at_ cfg t3) (at_ cfg t2) rA rL ep1 ch1 l addr (cid % 8) (initialData (at_ cfg t1) cnt) rfl hm hmac rfl hcnt hck
    hch hst hr ht.chalPos
  unfold fromInitial
  simp only [hout, h2, h3]
  exact ⟨_, finish_completes tm mac cfg t3 t4 t5 _ _ rA _ _ l addr ch1.clientId ch1.sentCount (l.active != 0) (tm.toBits (tm.now (at_ cfg t2).elapsedUs))
    hm hck hmac ha rfl (Or.inr rfl) hr hsc rfl ht.life ht.secret ht.ackNeg⟩

/-- **fault-free completion, for every parameter**: whatever the magic-header configuration, the clock readings, the random
streams (padding lengths 9…16 bytes), the client-id counter, the listener's secrets, the MAC (any function producing 20 bytes), the
non-empty address and the client's prior data-path state — if the four datagrams arrive as sent and the response arrives within the
cookie's lifetime, both ends complete and agree -/
theorem fault_free_completion {T} (tm : TimeOps T) (mac : Mac) (cfg : Env) (t1 t2 t3 t4 t5 : Int) (rA rB : Rng) (counter : Nat)
    (ep0 : Endpoint) (l : LState T) (addr : String)
    (hm : cfg.magic < 2 ^ cfg.magicBits) (hck : cfg.checksum < 4294967296) (hmac : ∀ k m, (mac k m).length = 20)
    (ha : addr.isEmpty = false) (ht : Timely tm l t2 t4) :
    ∃ d3 d1, Completes addr (.out d3 :: .out d1 :: .alloc .chal :: ep0.c.log) (exchange tm mac cfg t1 t2 t3 t4 t5 rA rB counter ep0 l addr) := by
  unfold exchange
  rw [connect_step (at_ cfg t1) rA counter ep0]
  refine Exists.imp (fun d3 hc => ⟨_, hc⟩) (fromInitial_completes tm mac cfg t1 t2 t3 t4 t5 _ rB rA _ _ l addr ((counter + 1) % 8) 0
    hm hck hmac ha rfl (Or.inl rfl) rfl ?_ (by decide) rfl ht)
  show (1 : Nat) < 256; decide

/-- **retransmission, starting over**: a pending client (any history of lost, duplicated or stale datagrams behind it) whose
retransmission timer fires while it holds no usable challenge re-sends the initial packet; if the network delivers from then on, both
ends complete and agree -/
theorem retry_initial_completes {T} (tm : TimeOps T) (mac : Mac) (cfg : Env) (t1 t2 t3 t4 t5 : Int) (rA rB : Rng)
    (ep : Endpoint) (ch : Challenge) (l : LState T) (addr : String)
    (hm : cfg.magic < 2 ^ cfg.magicBits) (hck : cfg.checksum < 4294967296) (hmac : ∀ k m, (mac k m).length = 20) (ha : addr.isEmpty = false)
    (hch : ep.chal = some ch) (hr : ch.restarted = false) (hsc : ch.sentCount < 256)
    (hdue : retryDue (at_ cfg t1) ch) (hst : ch.state = stUnInit ∨ chalExpired (at_ cfg t1) ch) (ht : Timely tm l t2 t4) :
    ∃ d3 d1, Completes addr (.out d3 :: .out d1 :: ep.c.log)
      (fromInitial tm mac cfg t2 t3 t4 t5 (ep.handshakeUpdate tm (at_ cfg t1) rA).2 rB (ep.handshakeUpdate tm (at_ cfg t1) rA).1 l addr) := by
  rw [update_retry_initial tm (at_ cfg t1) rA ep ch hch hr hdue hst]
  exact Exists.imp (fun d3 hc => ⟨_, hc⟩) (fromInitial_completes tm mac cfg t1 t2 t3 t4 t5 _ rB rA _ _ l addr ch.clientId ch.sentCount
    hm hck hmac ha rfl (Or.inl rfl) hr (Nat.mod_lt _ (by decide)) hsc rfl ht)

/-- **retransmission of the response**: a pending client holding a challenge this listener state issued for this address, whose
retransmission timer fires, re-sends its response; if that and the ack are delivered while the cookie is alive, both ends complete and
agree -/
theorem retry_response_completes {T} (tm : TimeOps T) (mac : Mac) (cfg : Env) (t3 t4 t5 : Int) (rA rB : Rng)
    (ep : Endpoint) (ch : Challenge) (l : LState T) (addr : String)
    (hm : cfg.magic < 2 ^ cfg.magicBits) (hck : cfg.checksum < 4294967296) (hmac : ∀ k m, (mac k m).length = 20) (ha : addr.isEmpty = false)
    (hch : ep.chal = some ch) (hr : ch.restarted = false) (hsc : ch.sentCount < 256)
    (hdue : retryDue (at_ cfg t3) ch) (hst : ch.state = stLocal) (hx : ¬ chalExpired (at_ cfg t3) ch)
    (hnz : tm.isZero (tm.ofBits ch.lastTs) = false)
    (hck' : ch.lastCookie = l.cookie mac addr ch.lastSecretId ch.lastTs)
    (hlife : LState.validLife tm (at_ cfg t4) (responseDataG (at_ cfg t3) ch.sentCount ch.lastSecretId ch.lastTs ch.lastCookie) = true)
    (hsec : l.validSecret tm (responseDataG (at_ cfg t3) ch.sentCount ch.lastSecretId ch.lastTs ch.lastCookie) = true)
    (hneg : tm.lt0 (tm.ofBits 0xBFF0000000000000) = true) :
    ∃ d3, Completes addr (.out d3 :: ep.c.log)
      (finish tm mac cfg t4 t5 (ep.handshakeUpdate tm (at_ cfg t3) rA).2 rB (ep.handshakeUpdate tm (at_ cfg t3) rA).1 l addr) := by
  rw [update_retry_response tm (at_ cfg t3) rA ep ch hch hr hdue hst hx hnz]
  rw [hck'] at hlife hsec ⊢
  exact ⟨_, finish_completes tm mac cfg t3 t4 t5 _ rB rA _ _ l addr ch.clientId ch.sentCount ch.lastSecretId ch.lastTs
    hm hck hmac ha rfl (Or.inr hst) hr hsc rfl hlife hsec hneg⟩

/-- the two retransmission theorems cover every pending client: it either holds no usable challenge or a fresh one -/
theorem retry_cases (e : Env) (ch : Challenge) (hst : ch.state = stUnInit ∨ ch.state = stLocal) :
    (ch.state = stUnInit ∨ chalExpired e ch) ∨ (ch.state = stLocal ∧ ¬ chalExpired e ch) := by
  by_cases hx : chalExpired e ch
  · exact Or.inl (Or.inr hx)
  · rcases hst with h | h
    · exact Or.inl (Or.inl h)
    · exact Or.inr ⟨h, hx⟩

/-! ### the hypotheses are satisfiable: an exact time algebra (integer microseconds, with the ack's −1.0 as a sentinel) -/

/-- integer microseconds; the one negative value the protocol puts on the wire (−1.0, in the ack) is represented exactly.  (`intOps`, the
algebra of C07, reads every pattern as a non-negative number, so `Timely.ackNeg` fails for it.) -/
def sOps : TimeOps Int where
  now := fun us => us + 1000000
  ofBits := fun b => if b = 0xBFF0000000000000 then -1000000 else (b.toNat : Int)
  toBits := fun t => if t = -1000000 then 0xBFF0000000000000 else UInt64.ofNat t.toNat
  sub := fun a b => a - b
  lifeLeft := fun x => Gen.MAX_COOKIE_LIFETIME_S * 1000000 - x
  ge0 := fun x => decide (x ≥ 0)
  gt0 := fun x => decide (x > 0)
  le0 := fun x => decide (x ≤ 0)
  lt0 := fun x => decide (x < 0)
  isZero := fun x => x == 0

theorem sOps_stamp (t : Int) (h0 : 0 ≤ t) (hb : t + 1000000 < 9223372036854775808) :
    sOps.ofBits (sOps.toBits (sOps.now t)) = t + 1000000 := by
  have hnn : 0 ≤ t + 1000000 := Int.add_nonneg h0 (by decide)
  have hne : ¬ (t + 1000000 = -1000000) := by omega
  have hn : ((t + 1000000).toNat : Int) = t + 1000000 := Int.toNat_of_nonneg hnn
  have hlt : (t + 1000000).toNat < 18446744073709551616 := by omega
  have htn : (UInt64.ofNat (t + 1000000).toNat).toNat = (t + 1000000).toNat := by
    rw [UInt64.toNat_ofNat']; exact Nat.mod_eq_of_lt hlt
  have hne2 : ¬ (UInt64.ofNat (t + 1000000).toNat = 0xBFF0000000000000) := by
    intro h
    have h' := congrArg UInt64.toNat h
    rw [htn] at h'
    have : (0xBFF0000000000000 : UInt64).toNat = 13830554455654793216 := by decide
    omega
  simp only [sOps, hne, if_false, hne2, htn, hn]

/-- with exact time the conditions are: the challenge is issued at a non-negative clock reading `t2` (plus one second below 2^63 µs) not before the last secret
rotation, the listener has rotated at least once, and the response arrives at `t4` with `t2 ≤ t4 < t2 + MAX_COOKIE_LIFETIME` -/
theorem timely_exact (l : LState Int) (t2 t4 : Int) (h0 : 0 ≤ t2) (hb : t2 + 1000000 < 9223372036854775808)
    (h24 : t2 ≤ t4) (hlt : t4 < t2 + Gen.MAX_COOKIE_LIFETIME_S * 1000000) (hact : l.active ≤ 1) (hrot : l.lastSecretUpdate ≤ t2 + 1000000) :
    Timely sOps l t2 t4 := by
  have hs := sOps_stamp t2 h0 hb
  refine ⟨by decide, by decide, ?_, ?_, ?_⟩
  · rw [hs]; simp only [sOps, decide_eq_true_eq]; exact Int.add_pos_of_nonneg_of_pos h0 (by decide)
  · unfold lifeOk; rw [hs]
    simp only [sOps, Gen.MAX_COOKIE_LIFETIME_S, Bool.and_eq_true, decide_eq_true_eq] at hlt ⊢
    omega
  · unfold secretOk
    rw [hs, slot_of_active (Nat.le_one_iff_eq_zero_or_eq_one.mp hact), beq_self_eq_true, if_pos rfl]
    simp only [sOps, decide_eq_true_eq]
    exact Int.sub_nonneg_of_le hrot

example : Timely sOps ({ lastSecretUpdate := 1000000, active := 0 } : LState Int) 5000000 5200000 :=
  timely_exact _ _ _ (by decide) (by decide) (by decide) (by decide) (by decide) (by decide)

/-! non-vacuity: the wrap values of the cookie-derived sequences -/
example : seqFromCookie [0xFF, 0xFF, 0, 0] 0 = 16383 ∧ seqFromCookie [0xFF, 0xFF, 0, 0] 1 = 0 := by decide

end Utcp.Props.C05
