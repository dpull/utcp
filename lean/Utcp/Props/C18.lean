import Utcp.Lemmas.SendInv
/-!
# C18 — every emitted datagram is bounded, framed and accepted by a peer in sync

* **one call, any state** (`Lemmas/Size.lean`, restated here): what `utcp_send_flush` and the handshake senders hand to
  the outgoing callback is non-empty, ends in a non-zero byte, and `bitbuf_read_init` recovers exactly the bits written;
* **any history** (`Lemmas/SendInv.lean`): the send-buffer invariant `SInv` — at most 8191 bits buffered, header
  placeholder as large as the history words reserved for it, every retransmission record small enough for an empty
  packet — is established by `utcp_sequence_init` and preserved by *every* operation of the data path of a connected
  endpoint (send of any bunch, valid or not; flush; `ReceivedPacket` on any bit string, with the retransmissions and
  flushes the NAKs in it trigger; update), for every clock schedule; and every datagram emitted along any such history
  has at most `UTCP_MAX_PACKET + 1 = 1025` bytes (`size_invariant`, `no_oversize_datagram`).
That a peer which accepts the header of such a datagram parses it completely, bunch by bunch, with no error is
`Props/C18_Parse.lean`; that an in-sync peer accepts the header is `Props/C18_Accept.lean` (`ahead_datagram_accepted`), for a datagram that
acknowledges nothing new.  Not proved: acceptance when the acknowledgement field advances, and that the two ends stay in sync over whole
sessions (checked by the C18 parse monitor on the real code); sends by an endpoint that is not connected are outside the invariant (the
library has no guard against them, see DESIGN.md §14).
-/
namespace Utcp.Props.C18
open Utcp Utcp.Gen

theorem limits : Gen.UTCP_MAX_PACKET = 1024 ∧ Gen.SIZEOF_SEND_BUFFER = 1024 + 32 + 1 ∧ Gen.UDP_MTU_SIZE = 1452
    ∧ Gen.MAX_PACKET_HEADER_BITS = 308 ∧ Gen.MAX_PACKET_TRAILER_BITS = 1 := Size.limits

/-- **every datagram a flush emits is framed**: non-empty, ends in a non-zero byte, and the receiver's
`bitbuf_read_init` recovers header ++ body ++ connection-level terminator -/
theorem flush_framed (e : Env) (c : Conn) (h : c.flushDue e = true) :
    ∃ bytes payload, (c.flush e).log = .out bytes :: c.log ∧ Size.Framed bytes payload ∧ payload.getLast? = some true :=
  Size.flush_framed e c h

/-- a refreshed header occupies exactly the space of the placeholder written when the packet was started (the
refresh is refused when more history words would be needed), so the body never moves -/
theorem finalHeader_same_length (c : Conn) (hh : c.notify.hist.length = 256) (hw : c.notify.writtenWords ≤ 8)
    (hn : c.sendNotif.length = 33 + 32 * c.notify.writtenWords) : c.finalHeader.2.length = c.sendNotif.length :=
  Size.finalHeader_same_length c hh hw hn

/-- **size, one call**: if the send buffer holds at most 8191 bits (the invariant `GetFreeSendBufferBits ≥ 0` enforces), the
emitted datagram has at most 1025 bytes: the maximum packet size plus the one byte of terminator framing -/
theorem flush_size (e : Env) (c : Conn) (ha : c.sendActive = true) (hh : c.notify.hist.length = 256) (hw : c.notify.writtenWords ≤ 8)
    (hn : c.sendNotif.length = 33 + 32 * c.notify.writtenWords) (hsz : c.sendBitsNum e ≤ 8191) :
    (bitsToBytes (c.packetBits e)).length ≤ 1025 := Size.flush_size e c ha hh hw hn hsz

/-- a keep-alive (empty) packet is at most 42 bytes -/
theorem keepalive_size (e : Env) (c : Conn) (hm : e.magicBits ≤ 32) (hh : c.notify.hist.length = 256) :
    (bitsToBytes (c.startPacket.packetBits e)).length ≤ 42 := Size.keepalive_size e c hm hh

/-- handshake padding: 9 … 16 whole zero bytes and the terminator bit -/
theorem padding_range (e : Env) (rng : Rng) (bits : Bits) :
    ∃ k, 9 ≤ k ∧ k ≤ 16 ∧ (capHandshake e rng 3 bits).2 = bits ++ List.replicate (8 * k) false ++ [true] := Size.padding_range e rng bits

/-- every handshake datagram is framed -/
theorem handshake_framed (e : Env) (rng : Rng) (ver : Nat) (bits : Bits) :
    ∃ payload, Size.Framed (bitsBytes (capHandshake e rng ver bits).2) payload := Size.handshake_framed e rng ver bits

/-- what the application and the network can do to a connected endpoint -/
inductive Op where
  /-- `utcp_send_bunch` with any bunch (valid or not) -/
  | send (b : Bunch)
  /-- `utcp_send_flush` -/
  | flush
  /-- the body of any datagram (the bits after the outgoing header) handed to `ReceivedPacket` -/
  | recv (bits : Bits)
  /-- `utcp_update` (timeout test and deferred channel teardown) -/
  | update

def apply (e : Env) (c : Conn) : Op → Conn
  | .send b => (c.sendBunch e b).1
  | .flush => c.flush e
  | .recv bits => (c.receivedPacket e bits).1
  | .update => (c.checkTimeout e).updateTail.1

/-- a history: each step comes with the process-global configuration and clock of that moment -/
def run (c : Conn) : List (Env × Op) → Conn
  | [] => c
  | (e, op) :: rest => run (apply e c op) rest

theorem run_append (ops1 ops2 : List (Env × Op)) : ∀ c : Conn, run c (ops1 ++ ops2) = run (run c ops1) ops2 := by
  induction ops1 with
  | nil => intro c; rfl
  | cons p rest ih => intro c; obtain ⟨e, op⟩ := p; exact ih _

theorem run_rel {R : Conn → Conn → Prop} (refl : ∀ c, R c c) (trans : ∀ {a b c}, R a b → R b c → R a c)
    (step : ∀ e c op, R c (apply e c op)) (ops : List (Env × Op)) : ∀ c, R c (run c ops) := by
  induction ops with
  | nil => exact refl
  | cons p rest ih => intro c; exact trans (step p.1 c p.2) (ih _)

/-- an invariant every step keeps is kept by every history -/
theorem run_pres {I : Conn → Prop} (step : ∀ e c op, I c → I (apply e c op)) (ops : List (Env × Op)) : ∀ c, I c → I (run c ops) :=
  run_rel (R := fun c c' => I c → I c') (fun _ h => h) (fun h1 h2 h => h2 (h1 h)) step ops

theorem run_inv {I : Conn → Prop} {R : Conn → Conn → Prop} (refl : ∀ c, R c c) (trans : ∀ {a b c}, R a b → R b c → R a c)
    (step : ∀ e c op, I c → I (apply e c op) ∧ R c (apply e c op)) (ops : List (Env × Op)) (c : Conn) (h : I c) : I (run c ops) ∧ R c (run c ops) :=
  run_rel (R := fun c c' => I c → I c' ∧ R c c') (fun _ h => ⟨h, refl _⟩)
    (fun h1 h2 h => ⟨(h2 (h1 h).1).1, trans (h1 h).2 (h2 (h1 h).1).2⟩) step ops c h

theorem apply_aclosed {e : Env} {R : Conn → Conn → Prop} (h : AClosed e R) (c : Conn) (op : Op) : R c (apply e c op) := by
  cases op with
  | send b => exact h.sendBunch c b
  | flush => exact h.flush c
  | recv bits => exact h.receivedPacket c bits
  | update => exact h.update c

theorem run_aclosed {R : Conn → Conn → Prop} (h : ∀ e, AClosed e R) (ops : List (Env × Op)) (c : Conn) : R c (run c ops) :=
  run_rel (h {}).refl (h {}).trans (fun e => apply_aclosed (h e)) ops c

/-- **one step**: the invariant is kept and every event added to the log is within the size bound -/
theorem step_invariant (e : Env) (c : Conn) (op : Op) (h : SInv e c) : SInv e (apply e c op) ∧ Adds SizeOK c (apply e c op) := by
  cases op with
  | send b => exact sendBunch_sinv e c b h
  | flush => exact flush_sinv e c h
  | recv bits => exact (sinv_side e).receivedPacket c bits h
  | update => exact (sinv_side e).update c h

/-- **every history**: as long as the magic-header width stays what it was (it is process-global configuration), after any
sequence of sends, flushes, incoming datagram bodies and updates, at any clock values, the invariant holds and
everything logged since the start is within the size bound -/
theorem size_invariant (m : Nat) (ops : List (Env × Op)) : ∀ (c : Conn) (e0 : Env), e0.magicBits = m → SInv e0 c → (∀ p ∈ ops, p.1.magicBits = m) →
    (∀ e, e.magicBits = m → SInv e (run c ops)) ∧ Adds SizeOK c (run c ops) := by
  induction ops with
  | nil =>
    intro c e0 h0 h _
    exact ⟨fun e he => h.env (by rw [he, h0]), Adds.refl _ _⟩
  | cons p rest ih =>
    intro c e0 h0 h hall
    obtain ⟨e, op⟩ := p
    have he : e.magicBits = m := hall (e, op) List.mem_cons_self
    obtain ⟨s1, s2⟩ := step_invariant e c op (h.env (by rw [he, h0]))
    obtain ⟨r1, r2⟩ := ih (apply e c op) e he s1 (fun q hq => hall q (List.mem_cons_of_mem _ hq))
    exact ⟨r1, s2.trans r2⟩

/-- **no over-size datagram, ever**: a datagram in the log after the history was either there before, or has at most 1025 bytes -/
theorem no_oversize_datagram (m : Nat) (ops : List (Env × Op)) (c : Conn) (e0 : Env) (h0 : e0.magicBits = m) (h : SInv e0 c)
    (hall : ∀ p ∈ ops, p.1.magicBits = m) (bytes : List UInt8) (hb : Event.out bytes ∈ (run c ops).log) :
    Event.out bytes ∈ c.log ∨ bytes.length ≤ 1025 :=
  ((size_invariant m ops c e0 h0 h hall).2.mem hb).symm.imp_right fun hw => hw bytes rfl

/-- the invariant holds right after `utcp_sequence_init` on a fresh connected endpoint (server side: at accept; client side: when the
handshake completes) -/
theorem fresh_invariant (e : Env) (i o : Int) (hm : e.magicBits ≤ 32) : SInv e (({} : Conn).seqInit i o) :=
  seqInit_sinv e {} i o hm rfl (by decide) rfl (by intro p hp; simp at hp)

/-! non-vacuity: an idle connected endpoint past its keep-alive interval satisfies the premises; a concrete history -/
example : ({ connected := true } : Conn).flushDue { elapsedUs := 0 } = true := by decide
example : SInv {} (run (({} : Conn).seqInit 7 16383) [({}, .send { chIndex := 1, bOpen := true, bReliable := true, data := [true, false] }), ({}, .flush), ({}, .update)]) :=
  (size_invariant 0 _ _ {} rfl (fresh_invariant {} 7 16383 (by decide)) (by intro p hp; simp at hp; rcases hp with rfl | rfl | rfl <;> rfl)).1 {} rfl

end Utcp.Props.C18
