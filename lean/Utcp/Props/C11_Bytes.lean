import Utcp.Props.C12_Write
import Utcp.Lemmas.Bunch
/-!
# C11 at the level of the byte array: the bunch header writer

`utcp_bunch_write_header` as the sequence of bit-buffer calls it makes, over the byte-array model: it appends exactly the bits of `encodeBunchHeader`.
With `Props/C09_Bytes.lean` (the reader refines `decodeBunch`) and the bit-level round trip of `Props/C11.lean` the codec round trip holds at byte level.
-/
namespace Utcp.BB
open Utcp

def b2n (x : Bool) : Nat := if x then 1 else 0

/-- `utcp_bunch_write_header(bunch, bitbuf)`: the calls of the C function in their order -/
def headerOps (b : Bunch) : List LOp :=
  [LOp.bit (b2n (b.bOpen || b.bClose))] ++
  (if b.bOpen || b.bClose then [LOp.bit (b2n b.bOpen), LOp.bit (b2n b.bClose)] ++ (if b.bClose then [LOp.int b.closeReason closeReasonMax] else []) else []) ++
  [LOp.bit (b2n b.bPaused), LOp.bit (b2n b.bReliable), LOp.packed b.chIndex, LOp.bit (b2n b.bExports), LOp.bit (b2n b.bGuids), LOp.bit (b2n b.bPartial)] ++
  (if b.bReliable then [LOp.wrapped (b.chSeq % 4294967296).toNat 10] else []) ++
  (if b.bPartial then [LOp.bit (b2n b.bPartialInitial), LOp.bit (b2n b.bPartialFinal)] else []) ++
  (if b.bReliable || b.bOpen then [LOp.bit 1, LOp.packed b.nameIndex] else []) ++
  [LOp.wrapped b.data.length 13]

theorem b2n_bit (x : Bool) : decide (b2n x % 256 ≠ 0) = x := by cases x <;> rfl

theorem flatMap_ite {α β} (f : α → List β) (c : Prop) [Decidable c] (x y : List α) :
    (if c then x else y).flatMap f = if c then x.flatMap f else y.flatMap f := by
  split <;> rfl

theorem headerOps_bits (b : Bunch) (bits : Bits) (h : encodeBunchHeader b = some bits) : (headerOps b).flatMap LOp.bits = bits := by
  rw [((encodeBunchHeader_eq_some_iff b bits).1 h).2]
  simp only [headerOps, hdrBits, writeCtl, writeSeq, writePartialFlags, writeName, maxChSequence_eq, maxPacketBits_eq, List.flatMap_append,
    List.flatMap_cons, List.flatMap_nil, flatMap_ite, LOp.bits, b2n_bit, List.append_nil, List.append_assoc, List.cons_append, List.nil_append]
  rfl

open LOp (ok_nil ok_cons ok_append ok_ite) in
theorem headerOps_ok (b : Bunch) (hr : b.bClose = true → b.closeReason < closeReasonMax) (hch : b.chIndex < 2 ^ 32) (hname : b.nameIndex < 2 ^ 32) :
    ∀ o ∈ headerOps b, o.ok := by
  have hcm : closeReasonMax ≤ 2 ^ 32 := by decide
  have bit : ∀ v, (LOp.bit v).ok := fun _ => trivial
  refine ok_append (ok_append (ok_append (ok_append (ok_append (ok_append ?_ ?_) ?_) ?_) ?_) ?_) ?_
  · exact ok_cons (bit _) ok_nil
  · exact ok_ite fun _ => ok_append (ok_cons (bit _) (ok_cons (bit _) ok_nil)) (ok_ite fun hc => ok_cons ⟨hr hc, hcm⟩ ok_nil)
  · exact ok_cons (bit _) (ok_cons (bit _) (ok_cons hch (ok_cons (bit _) (ok_cons (bit _) (ok_cons (bit _) ok_nil)))))
  · exact ok_ite fun _ => ok_cons (show (10 : Nat) ≤ 32 by decide) ok_nil
  · exact ok_ite fun _ => ok_cons (bit _) (ok_cons (bit _) ok_nil)
  · exact ok_ite fun _ => ok_cons (bit _) (ok_cons hname ok_nil)
  · exact ok_cons (show (13 : Nat) ≤ 32 by decide) ok_nil

/-- **`utcp_bunch_write_header` on the byte array**: into a zeroed buffer with room, the header writer's calls all succeed, touch no byte outside the buffer and
append exactly the bits of the bit-level `encodeBunchHeader` (for which C11 proves that the reader recovers the bunch) -/
theorem write_header_bytes (bunch : Bunch) (bits : Bits) (henc : encodeBunchHeader bunch = some bits) (hch : bunch.chIndex < 2 ^ 32) (hname : bunch.nameIndex < 2 ^ 32)
    (b : Buf) (hb : WB b) (hroom : b.num + needAll (headerOps bunch) ≤ b.size) :
    ∃ b', writeAll (headerOps bunch) b = some (true, b') ∧ WB b' ∧ b'.size = b.size ∧ content b' = content b ++ bits := by
  have hr : bunch.bClose = true → bunch.closeReason < closeReasonMax := by
    rw [closeReasonMax_eq]; exact ((encodeBunchHeader_eq_some_iff bunch bits).1 henc).1
  obtain ⟨b', h1, h2, h3, h4, _⟩ := writeAll_spec (headerOps bunch) b (headerOps_ok bunch hr hch hname) hb hroom
  exact ⟨b', h1, h2, h3, by rw [h4, headerOps_bits bunch bits henc]⟩

end Utcp.BB
