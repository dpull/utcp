import Utcp.Large
import Utcp.Lemmas.Packet
/-!
# C20 — packet-order cache: reordered arrival behaves like in-order arrival

`Wrapped` models `utcp::conn` (peek, priority queue keyed by peeked id, release while `top ≤ expected`,
forced flush).  Proved here: the peek is a pure function that agrees with the acceptance test of the core;
the cache is always sorted; its content after a batch does not depend on the arrival order; a forced flush feeds
it to the core in ascending id order.  Together with C04 (`stale_inert`: a duplicate or overtaken datagram is
inert wherever it lands) this is why reordering alone never drops or NAKs a packet.  Over every sequence of arrivals
(`nothing_dropped`): the wrapper hands every datagram it was given to the core exactly as often as it arrived — none dropped,
none duplicated — once the cache has been flushed.  Releases interleaved with arrivals: `Props/C20_Reorder.lean`.
-/
namespace Utcp.Props.C20
open Utcp Utcp.Gen

abbrev Entry := Int × List UInt8

def insertAll (batch : List Entry) (cache : List Entry) : List Entry := batch.foldl (fun c p => cacheInsert p.1 p.2 c) cache

theorem cacheInsert_perm (pid : Int) (d : List UInt8) (l : List Entry) : (cacheInsert pid d l).Perm ((pid, d) :: l) := by
  induction l with
  | nil => exact List.Perm.refl _
  | cons p rest ih =>
    obtain ⟨k, v⟩ := p
    simp only [cacheInsert]
    split
    · exact List.Perm.refl _
    · exact (List.Perm.cons _ ih).trans (List.Perm.swap _ _ _)

theorem mem_cacheInsert (k : Int) (d : List UInt8) (l : List Entry) (p : Entry) : p ∈ cacheInsert k d l ↔ p = (k, d) ∨ p ∈ l := by
  rw [(cacheInsert_perm k d l).mem_iff, List.mem_cons]

theorem cacheInsert_sorted (pid : Int) (d : List UInt8) (l : List Entry) (h : l.Pairwise (fun a b => a.1 ≤ b.1)) :
    (cacheInsert pid d l).Pairwise (fun a b => a.1 ≤ b.1) := by
  induction l with
  | nil => exact List.pairwise_singleton _ _
  | cons p rest ih =>
    rw [List.pairwise_cons] at h
    simp only [cacheInsert]
    split
    · rename_i hlt
      exact List.pairwise_cons.mpr ⟨List.forall_mem_cons.mpr ⟨Int.le_of_lt hlt, fun b hb => Int.le_trans (Int.le_of_lt hlt) (h.1 b hb)⟩,
        List.pairwise_cons.mpr h⟩
    · rename_i hge
      refine List.pairwise_cons.mpr ⟨fun b hb => ?_, ih h.2⟩
      rcases (mem_cacheInsert pid d rest b).mp hb with rfl | hb
      · exact Int.not_lt.mp hge
      · exact h.1 b hb

/-- the cache is sorted by peeked id after any sequence of arrivals -/
theorem insertAll_sorted (batch cache : List Entry) (h : cache.Pairwise (fun a b => a.1 ≤ b.1)) :
    (insertAll batch cache).Pairwise (fun a b => a.1 ≤ b.1) := by
  induction batch generalizing cache with
  | nil => exact h
  | cons p ps ih => exact ih _ (cacheInsert_sorted p.1 p.2 cache h)

/-- nothing is lost or invented by the cache -/
theorem insertAll_perm (batch cache : List Entry) : (insertAll batch cache).Perm (batch ++ cache) := by
  induction batch generalizing cache with
  | nil => exact List.Perm.refl _
  | cons p ps ih =>
    exact (ih _).trans ((List.Perm.append_left ps (cacheInsert_perm p.1 p.2 cache)).trans List.perm_middle)

/-- **order independence**: two arrival orders of the same batch (a datagram's id determines its bytes: genuine
datagrams, duplicates included) leave the *same* cache -/
theorem order_independent (b1 b2 : List Entry) (hp : b1.Perm b2)
    (hfun : ∀ x ∈ b1, ∀ y ∈ b1, x.1 = y.1 → x = y) : insertAll b1 [] = insertAll b2 [] := by
  have hall : ∀ b : List Entry, (insertAll b []).Perm b := fun b => by have := insertAll_perm b []; rwa [List.append_nil] at this
  have h1 := hall b1
  have h2 := (hall b2).trans hp.symm
  exact List.Perm.eq_of_pairwise (le := fun a b => a.1 ≤ b.1)
    (fun a b ha hb hab hba => hfun a (h1.subset ha) b (h2.subset hb) (Int.le_antisymm hab hba))
    (insertAll_sorted b1 [] .nil) (insertAll_sorted b2 [] .nil) (h1.trans h2.symm)

/-- feed a list of datagrams to the core, in order -/
def feed {T} (tm : TimeOps T) (e : Env) : Endpoint → Rng → List Entry → Endpoint × Rng
  | ep, rng, [] => (ep, rng)
  | ep, rng, p :: ps => let r := ep.incoming tm e rng p.2; feed tm e r.1 r.2.1 ps

/-- **a forced flush hands the whole cache to the core in ascending id order** and empties it -/
theorem flush_forced {T} (tm : TimeOps T) (e : Env) (w : Wrapped) (rng : Rng) (fuel : Nat) (hf : w.cache.length ≤ fuel) :
    (w.flushCache tm e fuel rng true).1.cache = [] ∧
    ((w.flushCache tm e fuel rng true).1.ep, (w.flushCache tm e fuel rng true).2) = feed tm e w.ep rng w.cache := by
  fun_induction Wrapped.flushCache tm e fuel w rng true with
  | case1 w rng => simp [List.length_eq_zero_iff.mp (Nat.le_zero.mp hf), feed]
  | case2 w rng fuel hc => simp [hc, feed]
  | case3 w rng fuel k d rest hc _ hcond => simp at hcond
  | case4 w rng fuel k d rest hc _ _ ep rng' ok hinc ih =>
    rw [hc, feed, hinc]
    exact ih (by rw [hc] at hf; exact Nat.le_of_succ_le_succ hf)

/-- the peek is a function of the connection and the bytes; for unparsable and handshake datagrams its verdict does not
depend on the connection -/
theorem peek_nonpositive_cases (e : Env) (ep : Endpoint) (bytes : List UInt8) :
    (readInit bytes = none → ep.peek e bytes = -1) ∧
    (∀ bits, readInit bytes = some bits → (∀ r, readOutgoingHeader e bits = .fail r → ep.peek e bytes = -2) ∧
       (∀ s c rest, readOutgoingHeader e bits = .ok (s, c, true) rest → ep.peek e bytes = 0)) := by
  refine ⟨fun h => by simp [Endpoint.peek, h], fun bits hb => ⟨fun r hr => by simp [Endpoint.peek, hb, hr], fun s c rest hr => by simp [Endpoint.peek, hb, hr]⟩⟩

/-- the peek of a data datagram whose header parses is `-8` when the core would treat it as stale, and otherwise
exactly `InPacketId + delta`, the id `ReceivedPacket` assigns when it accepts the packet -/
theorem peek_data (e : Env) (ep : Endpoint) (bytes : List UInt8) (bits rest r1 r2 : Bits) (s c packed : Nat) (hist : Bits)
    (hb : readInit bytes = some bits) (hh : readOutgoingHeader e bits = .ok (s, c, false) rest)
    (hp : readU32 rest = .ok packed r1) (hw : readBits (32 * min histWordsMax (packed % 16 + 1)) r1 = .ok hist r2) :
    let h : NotifHeader := { seq := ((packed / 2^18 % 16384 : Nat) : Int), ackedSeq := ((packed / 16 % 16384 : Nat) : Int),
                             words := min histWordsMax (packed % 16 + 1), hist := hist }
    ep.peek e bytes = if ep.c.notify.deltaSeq h ≤ 0 then -8 else ep.c.inPacketId + ep.c.notify.deltaSeq h := by
  simp [Endpoint.peek, hb, hh, hp, hw]

/-- the core's acceptance uses the same header fields and the same test as the peek (`peek_data`): when `deltaSeq h > 0`,
`ReceivedPacket` is its accept branch, which starts by setting the packet id to `InPacketId + delta`.  The statement is that branch
unfolded: it does not mention `peek`, and that the rest of the branch keeps the id is not part of it. -/
theorem core_assigns_peeked_id (e : Env) (c : Conn) (bits : Bits) (h : NotifHeader) (rest : Bits)
    (hd : decodePacketHeader bits = .ok (h, rest)) (hpos : c.notify.deltaSeq h > 0) :
    ∃ c', (c.receivedPacket e bits).1 = c' ∧
      c' = (let c1 := { c with inPacketId := c.inPacketId + c.notify.deltaSeq h }
            let c2 := c1.notifyUpdate e h
            let r := Conn.bunchLoop (rest.length + 1) c2 rest false
            { r.1 with notify := r.1.notify.ackSeq r.1.inPacketId (!r.2.2) }) :=
  ⟨_, rfl, by rw [receivedPacket_accept e c hd hpos]⟩

/-! non-vacuity -/
example : insertAll [(3, [3]), (1, [1]), (2, [2]), (1, [1])] [] = [(1, [1]), (1, [1]), (2, [2]), (3, [3])] := by decide

/-- `flushCache` with a ghost: the datagrams handed to the core, in the order they were handed over -/
def flushCacheG {T} (tm : TimeOps T) (e : Env) (fuel : Nat) (w : Wrapped) (rng : Rng) (forced : Bool) (fed : List (List UInt8)) :
    Wrapped × Rng × List (List UInt8) :=
  match fuel with
  | 0 => (w, rng, fed)
  | fuel+1 =>
    match w.cache with
    | [] => (w, rng, fed)
    | (pid, d) :: rest =>
      let expected := w.ep.c.inPacketId + 1
      if !forced && expected != -1 && decide (pid > expected) then (w, rng, fed) else
      let (ep, rng, _) := w.ep.incoming tm e rng d
      flushCacheG tm e fuel { ep := ep, cache := rest } rng forced (fed ++ [d])

theorem flushCacheG_eq {T} (tm : TimeOps T) (e : Env) (fuel : Nat) (w : Wrapped) (rng : Rng) (forced : Bool) (fed : List (List UInt8)) :
    ((flushCacheG tm e fuel w rng forced fed).1, (flushCacheG tm e fuel w rng forced fed).2.1) = w.flushCache tm e fuel rng forced := by
  fun_induction flushCacheG tm e fuel w rng forced fed with
  | case1 => rfl
  | case2 w rng fed fuel hc => simp [Wrapped.flushCache, hc]
  | case3 w rng fed fuel k d rest hc _ hcond => unfold Wrapped.flushCache; simp only [hc]; exact (if_pos hcond).symm
  | case4 w rng fed fuel k d rest hc _ hcond ep rng' ok hinc ih =>
    unfold Wrapped.flushCache; simp only [hc, hinc]; exact ih.trans (if_neg hcond).symm

/-- a flush only moves datagrams from the front of the cache to the core: what was fed so far followed by what is still cached
is unchanged -/
theorem flushCacheG_conserves {T} (tm : TimeOps T) (e : Env) (fuel : Nat) (w : Wrapped) (rng : Rng) (forced : Bool) (fed : List (List UInt8)) :
    (flushCacheG tm e fuel w rng forced fed).2.2 ++ (flushCacheG tm e fuel w rng forced fed).1.cache.map (·.2) = fed ++ w.cache.map (·.2) := by
  fun_induction flushCacheG tm e fuel w rng forced fed with
  | case1 => rfl
  | case2 => rfl
  | case3 => rfl
  | case4 w rng fed fuel k d rest hc _ hcond ep rng' ok hinc ih => rw [ih, hc]; simp

/-- `conn::incoming` with the ghost -/
def incomingG {T} (tm : TimeOps T) (e : Env) (w : Wrapped) (rng : Rng) (d : List UInt8) (fed : List (List UInt8)) : Wrapped × Rng × List (List UInt8) :=
  let pid := w.ep.peek e d
  if pid ≤ 0 then
    let (ep, rng, _) := w.ep.incoming tm e rng d
    ({ w with ep := ep }, rng, fed ++ [d])
  else
    let w := { w with cache := cacheInsert pid d w.cache }
    flushCacheG tm e w.cache.length w rng false fed

theorem incomingG_eq {T} (tm : TimeOps T) (e : Env) (w : Wrapped) (rng : Rng) (d : List UInt8) (fed : List (List UInt8)) :
    ((incomingG tm e w rng d fed).1, (incomingG tm e w rng d fed).2.1) = w.incoming tm e rng d := by
  unfold incomingG Wrapped.incoming
  dsimp only
  split
  · rfl
  · exact flushCacheG_eq tm e _ _ _ _ _

/-- one arrival: the datagrams fed plus the datagrams cached are, up to order, the previous ones plus the new one -/
theorem incomingG_conserves {T} (tm : TimeOps T) (e : Env) (w : Wrapped) (rng : Rng) (d : List UInt8) (fed : List (List UInt8)) :
    ((incomingG tm e w rng d fed).2.2 ++ (incomingG tm e w rng d fed).1.cache.map (·.2)).Perm (d :: (fed ++ w.cache.map (·.2))) := by
  unfold incomingG
  dsimp only
  split
  · simp only
    refine List.Perm.trans ?_ (List.perm_middle (l₁ := fed) (a := d) (l₂ := w.cache.map (·.2)))
    simp
  · rw [flushCacheG_conserves]
    have hp := (cacheInsert_perm (w.ep.peek e d) d w.cache).map (·.2)
    simp only [List.map_cons] at hp
    exact (List.Perm.append_left fed hp).trans (List.perm_middle (l₁ := fed) (a := d) (l₂ := w.cache.map (·.2)))

/-- a whole sequence of arrivals through the wrapper -/
def arrivals {T} (tm : TimeOps T) (e : Env) : Wrapped → Rng → List (List UInt8) → List (List UInt8) → Wrapped × Rng × List (List UInt8)
  | w, rng, fed, [] => (w, rng, fed)
  | w, rng, fed, d :: ds => let r := incomingG tm e w rng d fed; arrivals tm e r.1 r.2.1 r.2.2 ds

/-- the ghost erased: `arrivals` is the wrapper's own run over the arrivals -/
theorem arrivals_eq_foldl {T} (tm : TimeOps T) (e : Env) (arr : List (List UInt8)) : ∀ (w : Wrapped) (rng : Rng) (fed : List (List UInt8)),
    ((arrivals tm e w rng fed arr).1, (arrivals tm e w rng fed arr).2.1) = arr.foldl (fun (s : Wrapped × Rng) d => s.1.incoming tm e s.2 d) (w, rng) := by
  induction arr with
  | nil => intro w rng fed; rfl
  | cons d rest ih =>
    intro w rng fed
    simp only [arrivals, List.foldl_cons]
    rw [ih, ← incomingG_eq tm e w rng d fed]

theorem arrivals_conserve {T} (tm : TimeOps T) (e : Env) (ds : List (List UInt8)) : ∀ (w : Wrapped) (rng : Rng) (fed : List (List UInt8)),
    ((arrivals tm e w rng fed ds).2.2 ++ (arrivals tm e w rng fed ds).1.cache.map (·.2)).Perm (ds ++ (fed ++ w.cache.map (·.2))) := by
  induction ds with
  | nil => intro w rng fed; simp [arrivals]
  | cons d rest ih =>
    intro w rng fed
    simp only [arrivals]
    refine (ih _ _ _).trans ?_
    refine (List.Perm.append_left rest (incomingG_conserves tm e w rng d fed)).trans ?_
    simp only [List.cons_append]
    exact (List.perm_middle (l₁ := rest) (a := d) (l₂ := fed ++ w.cache.map (·.2)))

/-- **reordering never drops a packet**: after any sequence of arrivals through the wrapper (any order, duplicates included) and
a forced flush, the datagrams handed to the core are exactly the datagrams that arrived — each as often as it arrived — and the
cache is empty.  Stated on the ghost functions; they are the wrapper's own run with the list of fed datagrams carried along
(`arrivals_eq_foldl`, `flushCacheG_eq`) -/
theorem nothing_dropped {T} (tm : TimeOps T) (e : Env) (ds : List (List UInt8)) (rng : Rng) (w0 : Wrapped) (h0 : w0.cache = []) :
    let a := arrivals tm e w0 rng [] ds
    let f := flushCacheG tm e a.1.cache.length a.1 a.2.1 true a.2.2
    f.1.cache = [] ∧ f.2.2.Perm ds := by
  intro a f
  have hcache : f.1.cache = [] :=
    (congrArg (·.1.cache) (flushCacheG_eq tm e a.1.cache.length a.1 a.2.1 true a.2.2)).trans
      (flush_forced tm e a.1 a.2.1 a.1.cache.length (Nat.le_refl _)).1
  have hf : f.2.2 ++ f.1.cache.map (·.2) = a.2.2 ++ a.1.cache.map (·.2) := flushCacheG_conserves tm e a.1.cache.length a.1 a.2.1 true a.2.2
  have hc := arrivals_conserve tm e ds w0 rng []
  rw [hcache, List.map_nil, List.append_nil] at hf
  rw [h0, List.map_nil, List.append_nil, List.append_nil] at hc
  rw [hf]
  exact ⟨hcache, hc⟩

end Utcp.Props.C20
