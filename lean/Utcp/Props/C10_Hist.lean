import Utcp.Lemmas.Retain
import Utcp.Lemmas.CloseMark
import Utcp.Props.C16
import Utcp.Props.C10
import Utcp.Lemmas.OutSeq
/-!
# C10, over every history — the sender keeps what it may still have to retransmit

`recBits c ch` is what channel `ch` holds for retransmission: the serialized reliable bunches (a close bunch among them is just one more)
that have not been acknowledged.  Over every history of sends (valid or not), flushes, incoming packets (any bits: ACKs, NAKs, garbage)
and periodic updates — in any interleaving:

* an accepted reliable bunch is recorded (`accepted_reliable_is_recorded`);
* a record held at any moment is still held at any later moment — possibly re-tagged with the id of the packet that carried its
  retransmission — unless a *positive* delivery status was reported to the application in between (`retained_until_acked`);
* the only step that removes records is the release on ACK, and it removes only records tagged with the acknowledged packet id
  (`ack_releases_exactly`); a NAK re-sends and re-queues (`nak_requeues`); the deferred teardown that `update` performs frees a channel —
  closed or not — only when it holds none (`teardown_waits_for_acks`).

Together with C02 (`ack_sound`: a positive status is reported only for a packet the peer accepted) and C01/C04 across the link this is
the sender's half of "closing a channel never discards reliable data still in flight".

The receiver's half (second part of the file, `Lemmas/CloseMark.lean`): over the same histories a channel is *marked* closed only by a
callback that delivered a close bunch on it — i.e. in sequence, after all its predecessors — or by the local application's own close
(`marked_only_by_close`); and `utcp_update` removes a channel only if it is so marked and holds nothing awaiting acknowledgement
(`teardown_only_after_close`).

Not proved here: that the retransmissions eventually get through (liveness).
-/
namespace Utcp.Props.C10Hist
open Utcp Utcp.Gen Utcp.Props

theorem step_fate (e : Env) (c : Conn) (op : C18.Op) (h : BInvK c 0) : Fate c (C18.apply e c op) := by
  cases op with
  | send b => exact Fate.of_keep (sendBunch_rkeep e c b) (sendBunch_any e c b)
  | flush => exact Fate.of_keep (flush_rkeep e c) (flush_any e c)
  | recv bits => exact receivedPacket_fate e c bits
  | update => exact Fate.of_keep (update_rkeep e c h.sorted) (update_any e c)

theorem run_fate (ops : List (Env × C18.Op)) (c : Conn) (h : BInvK c 0) : Fate c (C18.run c ops) :=
  (C18.run_inv Fate.refl Fate.trans (fun e c op h => ⟨C16.step_balance e c op h, step_fate e c op h⟩) ops c h).2

/-- **retained until acknowledged**: take any history from `utcp_sequence_init`, cut it anywhere.  Every serialized reliable bunch that
channel `ch` holds for retransmission at the cut is still held at the end — unless, after the cut, a positive delivery status was
reported to the application -/
theorem retained_until_acked (ops1 ops2 : List (Env × C18.Op)) (i o : Int) (ch : Nat) (b : Bits)
    (hb : b ∈ recBits (C18.run (({} : Conn).seqInit i o) ops1) ch) :
    b ∈ recBits (C18.run (({} : Conn).seqInit i o) (ops1 ++ ops2)) ch ∨
    ∃ new pid, (C18.run (({} : Conn).seqInit i o) (ops1 ++ ops2)).log = new ++ (C18.run (({} : Conn).seqInit i o) ops1).log ∧ Event.status pid true ∈ new := by
  rw [C18.run_append]
  obtain ⟨new, hl, hk⟩ := run_fate ops2 _ (C16.run_balance ops1 _ (C16.fresh_balance i o))
  rcases hk ch b hb with h | ⟨pid, hp⟩
  · exact Or.inl h
  · exact Or.inr ⟨new, pid, hl, hp⟩

/-- **an accepted reliable bunch is recorded**: after `utcp_send_bunch` accepted a reliable bunch, its channel holds the bunch's
encoding — header with the sequence number the sender gave it, then the payload -/
theorem accepted_reliable_is_recorded (e : Env) (c : Conn) (b : Bunch) (h0 : Bits) (hchk : c.sendCheck b = .inr h0) (hr : b.bReliable = true) :
    ((encodeBunchHeader (c.tagged b)).getD h0 ++ b.data) ∈ recBits (c.sendBunch e b).1 b.chIndex := by
  obtain ⟨_, x, hx, hxo⟩ := sendCommit_chan c b h0 hchk
  have hseq : c.tagged b = { b with chSeq := x.outReliable + 1 } := by
    unfold Conn.tagged Conn.nextSeq; rw [hxo]; simp only [hr, if_true]
  rw [sendBunch_accepted e hchk, hseq, sendCommit_reliable e c b h0 x hr hx]
  generalize (encodeBunchHeader { b with chSeq := x.outReliable + 1 }).getD h0 ++ b.data = bits
  -- the channel is still there when the record is appended
  have hs : (((((c.getOrCreateChan b false).1.noteClose b).setChan b.chIndex { x with outReliable := x.outReliable + 1 }).writeBits e bits).1.emit (.alloc .node)).getChan b.chIndex
      = some { x with outReliable := x.outReliable + 1 } := by
    rw [emit_getChan, writeBits_getChan, getChan_setChan_self]
  rw [addOutRec_existing _ _ hs, recBits_of_get (getChan_setChan_self _ _ _)]
  exact List.mem_map.mpr ⟨_, List.mem_append_right _ List.mem_cons_self, rfl⟩

/-- **release on ACK removes only records tagged with the acknowledged packet id**: a record is still held afterwards, or it carried that id -/
theorem ack_releases_exactly (pid : Int) (chs : List Nat) (c : Conn) (ch : Nat) (b : Bits) (hb : b ∈ recBits c ch) :
    b ∈ recBits (c.onAckChans pid chs) ch ∨ ∃ x n, c.getChan ch = some x ∧ n ∈ x.outRec ∧ n.bits = b ∧ n.packetId = pid :=
  onAckChans_split pid chs c ch b hb

/-- **a NAK loses nothing**: the records of the lost packet are re-sent and re-queued -/
theorem nak_requeues (e : Env) (pid : Int) (chs : List Nat) (c : Conn) (ch : Nat) (b : Bits) (hb : b ∈ recBits c ch) :
    b ∈ recBits (c.onNakChans e pid chs) ch := onNakChans_rkeep e pid chs c ch b hb

/-- **the deferred teardown waits for the acknowledgements**: `utcp_update` — timeout test and teardown of closed channels — drops no
record; a channel that still holds one (the close bunch itself, or anything sent before it) survives -/
theorem teardown_waits_for_acks (e : Env) (c : Conn) (h : BInvK c 0) (ch : Nat) (b : Bits) (hb : b ∈ recBits c ch) :
    b ∈ recBits (c.checkTimeout e).updateTail.1 ch := update_rkeep e c h.sorted ch b hb

/-- the channels on which the local application's close bunch was accepted in a history -/
def localCloses : Conn → List (Env × C18.Op) → List Nat → List Nat
  | _, [], L => L
  | c, (e, .send b) :: rest, L => localCloses (C18.apply e c (.send b)) rest (c.closedAfter b L)
  | c, (e, op) :: rest, L => localCloses (C18.apply e c op) rest L

theorem closedAfter_mono (c : Conn) (b : Bunch) (L : List Nat) : ∀ x ∈ L, x ∈ c.closedAfter b L := by
  intro x hx
  unfold Conn.closedAfter
  split
  · exact hx
  · split
    · exact List.mem_cons_of_mem _ hx
    · exact hx

theorem run_closeinv (ops : List (Env × C18.Op)) : ∀ (c : Conn) (L : List Nat), CloseInv L c → BInvK c 0 →
    CloseInv (localCloses c ops L) (C18.run c ops) := by
  induction ops with
  | nil => intro c L h _; exact h
  | cons p rest ih =>
    intro c L h hb
    obtain ⟨e, op⟩ := p
    have hb' := C16.step_balance e c op hb
    cases op with
    | send b => exact ih _ _ (sendBunch_closeinv L e c b h) hb'
    | flush => exact ih _ _ (h.step (flush_cstep e c)) hb'
    | recv bits => exact ih _ _ (h.step (receivedPacket_cstep e c bits)) hb'
    | update => exact ih _ _ (h.step (update_cstep e c hb.sorted)) hb'

/-- **every close mark has a reason**: after any history (sends, flushes, incoming packets of any bits, updates), a channel that is
marked closed had a close bunch handed to the application on it — by a callback in the log, i.e. delivered in sequence — or the local
application itself sent a close bunch on it -/
theorem marked_only_by_close (ops : List (Env × C18.Op)) (i o : Int) (ch : Nat) (x : Channel)
    (hx : (C18.run (({} : Conn).seqInit i o) ops).getChan ch = some x) (hb : x.bClose = true) :
    ClosedBy (C18.run (({} : Conn).seqInit i o) ops).log ch ∨ ch ∈ localCloses (({} : Conn).seqInit i o) ops [] := by
  have h0 : CloseInv [] (({} : Conn).seqInit i o) := fun ch x hx => absurd hx (no_chan_of_chans_nil rfl ch x)
  exact run_closeinv ops _ [] h0 (C16.fresh_balance i o) ch x hx hb

/-- **the receiver does not tear a channel down before its close bunch has been delivered in sequence**: if `utcp_update`, after any
history, removes (or alters) a channel, then that channel held nothing awaiting acknowledgement, and a close bunch had been handed to
the application on it — or the local application had closed it -/
theorem teardown_only_after_close (ops : List (Env × C18.Op)) (e : Env) (i o : Int) (ch : Nat) (x : Channel)
    (hx : (C18.run (({} : Conn).seqInit i o) ops).getChan ch = some x)
    (hgone : ((C18.run (({} : Conn).seqInit i o) ops).checkTimeout e).updateTail.1.getChan ch ≠ some x) :
    x.outRec = [] ∧ (ClosedBy (C18.run (({} : Conn).seqInit i o) ops).log ch ∨ ch ∈ localCloses (({} : Conn).seqInit i o) ops []) := by
  have hbal := C16.run_balance ops _ (C16.fresh_balance i o)
  have hmark := marked_only_by_close ops i o ch x hx
  generalize C18.run (({} : Conn).seqInit i o) ops = c at hx hgone hbal hmark ⊢
  have hview : (c.checkTimeout e).updateTail.1.getChan ch = (c.checkTimeout e).delayClose.getChan ch := by
    unfold Conn.updateTail; dsimp only; split <;> rfl
  have hct : (c.checkTimeout e).getChan ch = some x := by rw [checkTimeout_getChan]; exact hx
  have hsorted : KeysSorted (c.checkTimeout e).chans := by rw [checkTimeout_chans]; exact hbal.sorted
  have huniq : ∀ p ∈ (c.checkTimeout e).chans, p.1 = ch → p.2 = x := by
    intro p hp he
    have := getChan_of_mem_sorted hsorted hp
    rw [he, hct] at this
    exact (Option.some.inj this).symm
  by_cases hk : x.bClose = false ∨ x.outRec ≠ []
  · exact absurd (by rw [hview]; exact C10.teardown_keeps _ ch x hct hk huniq) hgone
  · have hb : x.bClose = true := by cases h : x.bClose with | true => rfl | false => exact absurd (.inl h) hk
    exact ⟨Classical.byContradiction fun h => hk (.inr h), hmark hb⟩

/-! non-vacuity: a closing reliable bunch is recorded and survives an update -/
example : recBits ((((({} : Conn).seqInit 3 7).sendBunch {} { chIndex := 1, bOpen := true, bClose := true, bReliable := true }).1.checkTimeout {}).updateTail.1) 1 ≠ [] := by
  decide

end Utcp.Props.C10Hist
