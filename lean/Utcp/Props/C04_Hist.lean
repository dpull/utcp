import Utcp.Lemmas.RelOnly
import Utcp.Props.C04
/-!
# C04, over every history — only reliable bunches are kept for retransmission

`Props/C04.lean` shows that a receiver takes a packet at most once (stale packets are inert) and that everything delivered was sent.  The
sender's side of "each sent bunch is delivered at most once" for *unreliable* bunches: only reliable bunches are ever kept for
retransmission (`only_reliable_retained`, the one theorem proved here).  Since a retransmission writes only what a record holds
(`Conn.resendNodes`), the encoding of an unreliable bunch is written into exactly one packet — the one `utcp_send_bunch` reports — and
never again, whatever NAKs arrive; that last step is drawn here in words, not stated as a theorem.
-/
namespace Utcp.Props.C04Hist
open Utcp Utcp.Gen Utcp.Props

theorem run_relenc (ops : List (Env × C18.Op)) : ∀ c : Conn, AllOKP (BitsN RelEnc) c → AllOKP (BitsN RelEnc) (C18.run c ops) := by
  refine C18.run_pres ?_ ops
  intro e c op h
  cases op with
  | send b => exact sendBunch_relenc e c b h
  | flush => exact h.of_chans (flush_chans e c)
  | recv bits => exact ((bitsN_side e RelEnc).receivedPacket c bits h).1
  | update => exact ((bitsN_side e RelEnc).update c h).1

/-- **only reliable bunches are ever retransmitted**: after any history of sends (valid or not), flushes, incoming packets (any bits —
ACKs, NAKs, garbage) and updates, every retransmission record of every channel is the encoding of a well-formed bunch with the
reliable flag -/
theorem only_reliable_retained (ops : List (Env × C18.Op)) (i o : Int) (ch : Nat) (x : Channel) (n : OutNode)
    (hx : (C18.run (({} : Conn).seqInit i o) ops).getChan ch = some x) (hn : n ∈ x.outRec) :
    ∃ b, WFBunch b ∧ b.bReliable = true ∧ n.bits = encB b := by
  have h0 : AllOKP (BitsN RelEnc) (({} : Conn).seqInit i o) := by intro p hp; cases hp
  exact getChan_okP _ ch x (run_relenc ops _ h0) hx n hn

end Utcp.Props.C04Hist
