import Utcp.Props.C04
/-!
# C18 — a genuine packet is parsed completely, bunch by bunch, with no error

The last clause of C18: a datagram the sender emitted, delivered to a peer that accepts it, "is parsed completely with no bits left over
and no error".  The theorems say *how* it is parsed: the bunch loop of `ReceivedPacket`, run on the body of a genuine packet — a
concatenation of encodings of well-formed bunches on valid channels — does exactly what handing the decoded bunches one after the other to
the bunch handler does (`bunchLoop_genuine`): every `decodeBunch` succeeds, yields the bunch that was encoded (sequence modulo 1024), no
channel index is refused, nothing is left over; the two parse-error exits of `ReceivedRawBunch` are never taken.
-/
namespace Utcp.Props.C18Parse
open Utcp Utcp.Gen Utcp.Props

/-- what `ReceivedRawBunch` does with a bunch once it is decoded and its channel index is in range -/
def handleBunch (c : Conn) (w : Bunch) : Conn × Bool :=
  let c := c.emit (.alloc .node)
  let b := { w with packetId := c.inPacketId }
  match (c.getOrCreateChan b true).2 with
  | none => ((c.getOrCreateChan b true).1.emit (.free .node), false)
  | some x =>
    let r := (c.getOrCreateChan b true).1.processBunch x (absSeq (c.getOrCreateChan b true).1 x b)
    (r.1.dispatchAll b.chIndex, r.2)

/-- handing a list of decoded bunches to the handler, one after the other; the flags "do not acknowledge" accumulate -/
def handleAll : Conn → Bool → List Bunch → Conn × Bool
  | c, skip, [] => (c, skip)
  | c, skip, w :: rest => handleAll (handleBunch c w).1 (skip || (handleBunch c w).2) rest

theorem rawBunch_genuine (c : Conn) (bits rest : Bits) (w : Bunch) (hd : decodeBunch bits = .ok w rest) (hch : w.chIndex < maxChannels) :
    c.receivedRawBunch bits = ((handleBunch c w).1, rest, (handleBunch c w).2) := by
  unfold Conn.receivedRawBunch handleBunch
  have hn : ¬ (w.chIndex ≥ maxChannels) := Nat.not_le.mpr hch
  simp only [hd, hn, if_false]
  generalize (c.emit (.alloc .node)).getOrCreateChan { w with packetId := (c.emit (.alloc .node)).inPacketId } true = g
  obtain ⟨c1, o⟩ := g
  cases o <;> rfl

/-- **the bunch loop on a genuine body**: it is the sequential handling of the bunches that were encoded, and nothing is left over -/
theorem bunchLoop_genuine (bs : List Bunch) : ∀ (fuel : Nat) (c : Conn) (skip : Bool), bs.length ≤ fuel →
    (∀ b ∈ bs, WFBunch b ∧ b.chIndex < maxChannels) →
    Conn.bunchLoop fuel c (bodyOf bs) skip = ((handleAll c skip (bs.map wireView)).1, [], (handleAll c skip (bs.map wireView)).2) := by
  induction bs with
  | nil =>
    intro fuel c skip _ _
    cases fuel with
    | zero => rfl
    | succ f => unfold Conn.bunchLoop; simp [bodyOf, handleAll]
  | cons b tl ih =>
    intro fuel c skip hf hall
    cases fuel with
    | zero => simp at hf
    | succ f =>
      obtain ⟨hwf, hch⟩ := hall b List.mem_cons_self
      obtain ⟨hne, hdec⟩ := encB_decode b hwf (bodyOf tl)
      rw [bodyOf_cons, bunchLoop_succ f c _ skip (List.append_ne_nil_of_left_ne_nil hne _),
        rawBunch_genuine c _ (bodyOf tl) (wireView b) hdec hch]
      exact ih f _ _ (Nat.le_of_succ_le_succ hf) (fun x hx => hall x (List.mem_cons_of_mem _ hx))

/-- **an accepted genuine packet**: `ReceivedPacket` on a header it accepts followed by a genuine body updates the acknowledgement
state, handles the bunches in order, records the verdict for the packet, and reports that everything was consumed -/
theorem receivedPacket_genuine (e : Env) (c : Conn) (bits : Bits) (h : NotifHeader) (bs : List Bunch)
    (hd : decodePacketHeader bits = .ok (h, bodyOf bs)) (hpos : c.notify.deltaSeq h > 0)
    (hall : ∀ b ∈ bs, WFBunch b ∧ b.chIndex < maxChannels) :
    c.receivedPacket e bits =
      (let c2 := ({ c with inPacketId := c.inPacketId + c.notify.deltaSeq h } : Conn).notifyUpdate e h
       let r := handleAll c2 false (bs.map wireView)
       ({ r.1 with notify := r.1.notify.ackSeq r.1.inPacketId (!r.2) }, true)) := by
  rw [receivedPacket_accept e c hd hpos]
  have hlen := bodyOf_length bs (fun b hb => (hall b hb).1)
  dsimp only
  rw [bunchLoop_genuine bs _ _ false (Nat.le_succ_of_le hlen) hall]
  rfl

/-! ## every datagram the sender emits is such a packet -/

theorem sent_channels_valid (ops : List (Env × C18.Op)) : ∀ (c : Conn) (sent : List Bunch), (∀ b ∈ sent, b.chIndex < maxChannels) →
    ∀ b ∈ C04.sentOf c ops sent, b.chIndex < maxChannels := by
  induction ops with
  | nil => intro c sent h; exact h
  | cons p rest ih =>
    intro c sent h
    obtain ⟨e, op⟩ := p
    cases op with
    | send b =>
      refine ih _ _ ?_
      intro x hx
      cases hchk : c.sendCheck b with
      | inl err => rw [sentAfter_refused hchk] at hx; exact h x hx
      | inr h0 =>
        rw [sentAfter_accepted hchk] at hx
        rcases List.mem_cons.mp hx with rfl | hx
        · exact (sendCheck_cases hchk).1
        · exact h x hx
    | flush => exact ih _ _ h
    | recv bits => exact ih _ _ h
    | update => exact ih _ _ h

/-- **every data datagram ever emitted, delivered to a peer that accepts its header, is parsed completely, bunch by bunch, with no
error**: `S` is any sender state reached from `utcp_sequence_init` by any history, `d` any datagram in its log, the receiver `c` any
connection under the same magic-header configuration.  The receiving endpoint takes `d` apart into a packet header and a body of
well-formed bunches on valid channels; if `c` accepts the header, `ReceivedPacket` is the sequential handling of exactly those bunches
and reports that nothing was left over -/
theorem emitted_datagram_parses (mb mg : Nat) (hfit : mg < 2 ^ mb) (opsS : List (Env × C18.Op)) (hS : ∀ p ∈ opsS, p.1.magicBits = mb ∧ p.1.magic = mg) (iS oS : Int)
    (d : List UInt8) (hd : Event.out d ∈ (C18.run (({} : Conn).seqInit iS oS) opsS).log) (e : Env) (he : e.magicBits = mb ∧ e.magic = mg) :
    ∃ (bits : Bits) (h : NotifHeader) (bs : List Bunch), C04.wireBits e d = some bits ∧ decodePacketHeader bits = .ok (h, bodyOf bs) ∧
      (∀ b ∈ bs, WFBunch b ∧ b.chIndex < maxChannels) ∧
      ∀ c : Conn, c.notify.deltaSeq h > 0 →
        c.receivedPacket e bits =
          (let c2 := ({ c with inPacketId := c.inPacketId + c.notify.deltaSeq h } : Conn).notifyUpdate e h
           let r := handleAll c2 false (bs.map wireView)
           ({ r.1 with notify := r.1.notify.ackSeq r.1.inPacketId (!r.2) }, true)) := by
  obtain ⟨e', s, cl, hh, body, he', wf, rfl, bs, rfl, hgood⟩ := C04.sender_emits_only_sent mb mg opsS hS iS oS d hd
  obtain ⟨hwb, hdec⟩ := C04.wireBits_emitted hfit he he' s cl hh wf (bodyOf bs)
  have hvalid := sent_channels_valid opsS (({} : Conn).seqInit iS oS) [] (by intro b hb; cases hb)
  have hall : ∀ b ∈ bs, WFBunch b ∧ b.chIndex < maxChannels := by
    intro b hb
    obtain ⟨hwf, t, ht, hseen, _⟩ := hgood b hb
    have hi : b.chIndex = t.chIndex := (C04.seen_fields (wireView b) t hseen).1
    exact ⟨hwf, hi ▸ hvalid t ht⟩
  exact ⟨_, hh, bs, hwb, hdec, hall, fun c hpos => receivedPacket_genuine e c _ hh bs hdec hpos hall⟩

end Utcp.Props.C18Parse
