import Utcp.Handshake
import Utcp.Lemmas.Conn
/-!
# C17 — behaviour depends only on inputs, clock and the random callback

In the model the contents of freshly allocated memory are simply *not an input*: every function is a function of
(state, API call, clock, random streams).  What can be stated are the facts that make this a faithful model of the
C code: every object the library allocates is completely defined by its constructor before it is read — whatever
was there before.  The *check* of this property is the tie: the real code is run under four fill patterns of fresh
memory (0x00, 0xFF, 0xA5, a seeded random byte) for every scenario and must reproduce the model's trace — and the
other runs' — byte for byte.  That tie is testing, not proof, and is labelled so in the evidence.  For the receive path the property is
proved over the byte-array model: what `utcp_bunch_read` parses, and the state, callbacks and return value `ReceivedPacket` ends with, do
not depend on what the allocator's nodes held (`Props/C17_Bytes.lean`, `Props/C09_Packet.lean`).
-/
namespace Utcp.Props.C17
open Utcp Utcp.Gen

/-- the challenge data after `utcp_connect` is fully determined by the inputs (the repaired `memset` zeroes all of
it): nothing of a previous challenge block survives -/
theorem connect_defines_challenge (e : Env) (rng : Rng) (counter : Nat) (ep ep' : Endpoint) (h : ep.c = ep'.c) :
    (ep.connect e rng counter).1.chal = (ep'.connect e rng counter).1.chal ∧
    (ep.connect e rng counter).1.chal = some { clientId := (counter + 1) % 8, sentCount := 1, lastClientSendMs := e.nowMs } := by
  unfold Endpoint.connect Endpoint.sendInitial
  simp

/-- `utcp_sequence_init` (re)defines the ack-tracking state — history, ack records, all five sequence numbers — except the two fields that
remember the header written last (`writtenWords`, `writtenInAckSeq`), which it leaves as they are -/
theorem seqInit_defines_notify (c c' : Conn) (i o : Int) (hw : c.notify.writtenWords = c'.notify.writtenWords)
    (hi : c.notify.writtenInAckSeq = c'.notify.writtenInAckSeq) : (c.seqInit i o).notify = (c'.seqInit i o).notify := by
  unfold Conn.seqInit Notify.init
  cases hn : c.notify; cases hn' : c'.notify
  simp_all

/-- a channel created on demand is fully defined: empty queues, counters from the connection's initial values -/
theorem created_channel_defined (c : Conn) (ch : Nat) :
    (c.createChan ch).getChan ch = some { inReliable := c.initInReliable, outReliable := c.initOutReliable } := by
  obtain ⟨evs, cap, _, h⟩ := createChan_eq c ch
  rw [h, getChan_setChan_self]

/-- a connection accepted by the listener is built from scratch -/
theorem accepted_defined (e : Env) (a : Accepted) :
    (Endpoint.accepted e a).chal = none ∧ (Endpoint.accepted e a).c.chans = [] ∧ (Endpoint.accepted e a).c.sendActive = false := by
  unfold Endpoint.accepted Conn.seqInit
  exact ⟨rfl, rfl, rfl⟩

end Utcp.Props.C17
