import Utcp.Lemmas.Packet
import Utcp.Lemmas.Conn
import Utcp.Handshake
import Utcp.Props.C13
import Utcp.Props.C01
import Utcp.Props.C18
import Utcp.Lemmas.Emission
import Utcp.Props.C11
/-!
# C04 — nothing is delivered that was not sent; nothing twice; replays are inert

Local part, for one endpoint fed *arbitrary* bytes: a datagram whose header is not newer than what has been
accepted (or whose ack field lies outside the window of packets awaiting a verdict) changes nothing except
the receive timestamp and the cached session / client id: no delivery, no status callback, no datagram, no
allocation — and therefore no change in what is delivered afterwards.  Over every history of sends, flushes and incoming packets
(`C01.Op`: no `utcp_update`, so one incarnation per channel; from C01's order invariant): no reliable channel sequence number is ever
handed to the application twice, whatever is replayed (`reliable_at_most_once`).

**Nothing is delivered that was not sent** (last part of the file; `Lemmas/Emission.lean`, `Lemmas/Origin.lean`), in two halves that
meet at the notion of a *good body* — a packet body that is a concatenation of encodings of well-formed bunches each of which looks
(flags, channel, close reason, name, payload) like a bunch in a list `sent`:
* sender, every history (`sender_emits_only_sent`): every datagram an endpoint ever emits on the data path — first transmissions,
  retransmissions after any NAK pattern, packets flushed to make room — consists of the two headers, a good body with respect to
  the bunches its application handed to `utcp_send_bunch` so far, and the terminators;
* receiver, every history (`delivered_were_sent`): if the body of every packet it is given is a good body with respect to `sent`
  — in any order, with any duplication and any loss, interleaved with its own sends — then every bunch of every callback it ever
  makes looks like a bunch in `sent`.
`wire_to_body` shows that the receiving endpoint takes such a datagram apart into exactly the packet header and body the sender
wrote, and `link_integrity` puts the pieces together.  The only assumption is the one the property itself makes: the network does not
alter or forge datagrams (the protocol does not authenticate data packets).
-/
namespace Utcp.Props.C04
open Utcp Utcp.Gen

theorem ite_pos_iff {c : Prop} [Decidable c] {d : Int} : (if c then d else 0) > 0 ↔ c ∧ d > 0 := by
  by_cases hc : c
  · rw [if_pos hc]; exact ⟨fun hd => ⟨hc, hd⟩, fun h => h.2⟩
  · rw [if_neg hc]; exact ⟨fun h0 => absurd h0 (Int.lt_irrefl 0), fun h => absurd h.1 hc⟩

/-- the acceptance test of `packet_notify_delta_seq`, spelled out -/
theorem deltaSeq_pos_iff (n : Notify) (h : NotifHeader) :
    n.deltaSeq h > 0 ↔ (seq_num_greater_than h.seq n.inSeq = true ∧ seq_num_greater_equal h.ackedSeq n.outAckSeq = true
      ∧ seq_num_greater_than n.outSeq h.ackedSeq = true ∧ seq_num_diff h.seq n.inSeq > 0) := by
  rw [Notify.deltaSeq_eq]; unfold Notify.deltaSeqSpec
  rw [ite_pos_iff, Bool.and_eq_true, Bool.and_eq_true, and_assoc, and_assoc]

theorem stale_of_not_newer (n : Notify) (h : NotifHeader) (hs : seq_num_greater_than h.seq n.inSeq = false) : n.deltaSeq h = 0 := by
  rw [Notify.deltaSeq_eq]; unfold Notify.deltaSeqSpec; simp [hs]

theorem stale_of_bad_ack (n : Notify) (h : NotifHeader)
    (hs : seq_num_greater_equal h.ackedSeq n.outAckSeq = false ∨ seq_num_greater_than n.outSeq h.ackedSeq = false) : n.deltaSeq h = 0 := by
  rw [Notify.deltaSeq_eq]; unfold Notify.deltaSeqSpec
  rcases hs with hs | hs <;> simp [hs]

/-- **stale packets are inert** at the packet layer: the connection is returned unchanged (same state, same log) -/
theorem stale_inert (e : Env) (c : Conn) (bits : Bits) (h : NotifHeader) (rest : Bits)
    (hd : decodePacketHeader bits = .ok (h, rest)) (hs : c.notify.deltaSeq h ≤ 0) :
    (c.receivedPacket e bits).1 = c := by
  rw [receivedPacket_stale e c hd hs]

/-- the same packet again: once a packet with sequence `h.seq` has been accepted (`inSeq = h.seq`), every header carrying that
sequence is stale, whatever else it contains -/
theorem duplicate_is_stale (n : Notify) (h : NotifHeader) (hacc : n.inSeq = h.seq) : n.deltaSeq h = 0 := by
  apply stale_of_not_newer
  rw [hacc]
  exact C13.gt_irrefl h.seq

/-- older packets stay stale: if `x` is the absolute id of the last accepted packet and `y ≤ x` is within the
protocol's window (less than 8192 ids older), a header carrying `y`'s sequence is not newer -/
theorem older_is_stale (n : Notify) (h : NotifHeader) (x y : Int) (hin : n.inSeq = x % 16384) (hh : h.seq = y % 16384)
    (hle : y ≤ x) (hwin : x - y < 8192) : n.deltaSeq h = 0 := by
  apply stale_of_not_newer
  rw [hin, hh, C13.gt_abs y x (by omega)]
  simp; omega

/-- at the endpoint: a stale data datagram only refreshes the receive stamp and the cached session/client id -/
theorem endpoint_stale_inert {T} (tm : TimeOps T) (e : Env) (rng : Rng) (ep : Endpoint) (bytes : List UInt8) (bits rest : Bits) (s cl : Nat)
    (h : NotifHeader) (rest' : Bits)
    (h1 : readInit bytes = some bits) (h2 : readOutgoingHeader e bits = .ok (s, cl, false) rest) (h3 : rest ≠ [])
    (hd : decodePacketHeader rest.dropLast = .ok (h, rest')) (hs : ep.c.notify.deltaSeq h ≤ 0) :
    (ep.incoming tm e rng bytes).1 = { ep with c := { ep.c with lastSessionId := s, lastClientId := cl, lastRecvMs := e.nowMs } }
    ∧ (ep.incoming tm e rng bytes).2.1 = rng := by
  rw [incoming_data tm e ep rng bytes bits rest s cl h1 h2 (List.isEmpty_eq_false_iff.mpr h3), receivedPacket_stale e (heard e ep.c s cl) hd hs]
  exact ⟨rfl, rfl⟩

example : ({ inSeq := 16383 } : Notify).deltaSeq { seq := 16383, ackedSeq := 0, words := 1, hist := [] } = 0 := by decide
example : ({ inSeq := 2, outSeq := 5, outAckSeq := 4 } : Notify).deltaSeq { seq := 16380, ackedSeq := 4, words := 1, hist := [] } = 0 := by decide

/-- **at most once, for every history**: however often and wherever datagrams are re-injected (or forged), no reliable bunch of a
channel is delivered a second time -/
theorem reliable_at_most_once (ops : List (Env × C01.Op)) (c : Conn) (h : RecvInv c) (ch : Nat) :
    (relLog ch (C01.run c ops).log).Nodup := C01.delivered_once ops c h ch

/-- the bunches `utcp_send_bunch` accepted in a history, newest first, on top of `sent` — each with the channel sequence number the
sender gave it (`Conn.tagged`; a refused bunch is not added) -/
def sentOf : Conn → List (Env × C18.Op) → List Bunch → List Bunch
  | _, [], sent => sent
  | c, (e, .send b) :: rest, sent => sentOf (C18.apply e c (.send b)) rest (c.sentAfter b sent)
  | c, (e, op) :: rest, sent => sentOf (C18.apply e c op) rest sent

theorem sentOf_mono (ops : List (Env × C18.Op)) : ∀ c sent x, x ∈ sent → x ∈ sentOf c ops sent := by
  induction ops with
  | nil => intro c sent x hx; exact hx
  | cons p rest ih =>
    intro c sent x hx
    obtain ⟨e, op⟩ := p
    cases op with
    | send b => exact ih _ _ x (sentAfter_mono c b sent x hx)
    | flush => exact ih _ _ x hx
    | recv bits => exact ih _ _ x hx
    | update => exact ih _ _ x hx

theorem adds_mono_sent {mb mg : Nat} {sent sent' : List Bunch} {c c' : Conn} (h : Adds (EP mb mg sent) c c') (hs : ∀ b ∈ sent, b ∈ sent') : Adds (EP mb mg sent') c c' :=
  h.mono (fun _ hev => hev.mono hs)

/-- **sender**: over every history of sends (valid or not), flushes, incoming packets (any bits: ACKs, NAKs, garbage) and updates — under
a fixed magic-header configuration `(mb, mg)` — the send buffer and every retransmission record stay good bodies, the packet header
stays a well-formed header encoding, and every datagram emitted is `outgoing header ++ well-formed packet header ++ good body ++
terminators`, with respect to the bunches handed to `utcp_send_bunch` so far -/
theorem sender_run (mb mg : Nat) (ops : List (Env × C18.Op)) : ∀ (c : Conn) (sent : List Bunch), EInv sent c →
    (∀ p ∈ ops, p.1.magicBits = mb ∧ p.1.magic = mg) →
    EInv (sentOf c ops sent) (C18.run c ops) ∧ Adds (EP mb mg (sentOf c ops sent)) c (C18.run c ops) := by
  induction ops with
  | nil => intro c sent h _; exact ⟨h, Adds.refl _ _⟩
  | cons p rest ih =>
    intro c sent h hall
    obtain ⟨e, op⟩ := p
    have he := hall (e, op) List.mem_cons_self
    have hrest : ∀ q ∈ rest, q.1.magicBits = mb ∧ q.1.magic = mg := fun q hq => hall q (List.mem_cons_of_mem _ hq)
    cases op with
    | send b =>
      obtain ⟨s1, s2⟩ := sendBunch_einv sent e he c b h
      obtain ⟨r1, r2⟩ := ih _ (c.sentAfter b sent) s1 hrest
      exact ⟨r1, (adds_mono_sent s2 (sentOf_mono rest _ _)).trans r2⟩
    | flush =>
      obtain ⟨s1, s2⟩ := flush_einv sent e he c h
      obtain ⟨r1, r2⟩ := ih _ sent s1 hrest
      exact ⟨r1, (adds_mono_sent s2 (sentOf_mono rest _ sent)).trans r2⟩
    | recv bits =>
      obtain ⟨s1, s2⟩ := (einv_side sent e he).receivedPacket c bits h
      obtain ⟨r1, r2⟩ := ih _ sent s1 hrest
      exact ⟨r1, (adds_mono_sent s2 (sentOf_mono rest _ sent)).trans r2⟩
    | update =>
      obtain ⟨s1, s2⟩ := (einv_side sent e he).update c h
      obtain ⟨r1, r2⟩ := ih _ sent s1 hrest
      exact ⟨r1, (adds_mono_sent s2 (sentOf_mono rest _ sent)).trans r2⟩

/-- … in particular, for a freshly initialised connection: every datagram in the log has that form -/
theorem sender_emits_only_sent (mb mg : Nat) (ops : List (Env × C18.Op)) (hall : ∀ p ∈ ops, p.1.magicBits = mb ∧ p.1.magic = mg) (i o : Int) (d : List UInt8)
    (hd : Event.out d ∈ (C18.run (({} : Conn).seqInit i o) ops).log) :
    ∃ (e : Env) (s cl : Nat) (hh : NotifHeader) (body : Bits), (e.magicBits = mb ∧ e.magic = mg) ∧ C11.WFHeader hh ∧
      d = bitsToBytes (outgoingHeader e s cl false ++ encodeNotifHeader hh ++ body ++ [true, true]) ∧ GoodBody (sentOf (({} : Conn).seqInit i o) ops []) body := by
  rcases (sender_run mb mg ops (({} : Conn).seqInit i o) [] (fresh_einv _ rfl rfl (seqInit_hinv _ _ _ rfl)) hall).2.mem hd with hw | hd
  · exact hw d rfl
  · cases hd

/-- the packets a receiver is given: every one whose header parses has a good body with respect to `sent` -/
def Offered (sent : List Bunch) : List (Env × C01.Op) → Prop
  | [] => True
  | (_, .recv bits) :: rest => (∀ hd body, decodePacketHeader bits = .ok (hd, body) → GoodBody sent body) ∧ Offered sent rest
  | _ :: rest => Offered sent rest

theorem Offered.loopOK (sent : List Bunch) : ∀ ops : List (Env × C01.Op), Offered sent ops →
    ∀ p ∈ ops, ∀ bits, p.2 = .recv bits → LoopOK (SentQ sent) bits := by
  intro ops
  induction ops with
  | nil => intro _ p hp; cases hp
  | cons q rest ih =>
    intro hoff p hp bits hb
    have hrest : Offered sent rest := by obtain ⟨e, op⟩ := q; cases op <;> first | exact hoff | exact hoff.2
    rcases List.mem_cons.mp hp with rfl | hp
    · obtain ⟨e, op⟩ := p
      cases hb
      exact loopOK_body (sentQ_stable sent) _ hoff.1
    · exact ih hrest p hp bits hb

theorem receiver_run (sent : List Bunch) (ops : List (Env × C01.Op)) : ∀ c : Conn, OInv (SentQ sent) c → Offered sent ops →
    OInv (SentQ sent) (C01.run c ops) ∧ Adds (OP (SentQ sent)) c (C01.run c ops) :=
  fun c h hoff => C01.side_run (oinv_side _) ops c (Offered.loopOK sent ops hoff) h

/-- **receiver**: whatever order, duplication or loss the offered packets come in, and whatever the endpoint itself sends in between:
every bunch of every callback made during the history looks like a bunch in `sent` — same flags, channel, close reason, name index
and payload -/
theorem delivered_were_sent (sent : List Bunch) (ops : List (Env × C01.Op)) (i o : Int) (hoff : Offered sent ops)
    (g : List Bunch) (hg : Event.recv g ∈ (C01.run (({} : Conn).seqInit i o) ops).log) :
    ∀ q ∈ g, ∃ b ∈ sent, seen q = seen b ∧ (q.bReliable = true → q.chSeq % 1024 = b.chSeq % 1024) := by
  have h0 : OInv (SentQ sent) (({} : Conn).seqInit i o) := fun ch x hx => (no_chan_of_chans_nil rfl ch x hx).elim
  rcases (receiver_run sent ops _ h0 hoff).2.mem hg with hw | hg
  · exact hw g rfl
  · cases hg

/-- what "looks like" gives for the nine fields `seen` copies; close reason, name index and the two partial-position flags agree only under
the masks `seen` puts on them -/
theorem seen_eq_copied (q b : Bunch) (h : seen q = seen b) :
    q.chIndex = b.chIndex ∧ q.bOpen = b.bOpen ∧ q.bClose = b.bClose ∧ q.bReliable = b.bReliable ∧ q.bPartial = b.bPartial ∧ q.data = b.data ∧
    q.bPaused = b.bPaused ∧ q.bExports = b.bExports ∧ q.bGuids = b.bGuids := by
  unfold seen at h
  injection h with h1 h2 h3 h4 h5 h6 h7 h8 h9 h10 h11 h12 h13 h14 h15
  exact ⟨h1, h2, h3, h5, h8, h15, h4, h6, h7⟩

theorem seen_fields (q b : Bunch) (h : seen q = seen b) : q.chIndex = b.chIndex ∧ q.bReliable = b.bReliable :=
  ⟨(seen_eq_copied q b h).1, (seen_eq_copied q b h).2.2.2.1⟩

/-- **the glue between the two halves**: a datagram of the form the sender emits (`sender_emits_only_sent`), whose packet header
is a well-formed header encoding, is taken apart by the receiving endpoint into exactly that header and exactly that body — so the
body `ReceivedPacket` works on is the good body the sender wrote.  (`magic < 2^magicBits`: the configured magic value fits the
configured width, as in every configuration the harness uses.) -/
theorem wire_to_body (e : Env) (s cl : Nat) (h : NotifHeader) (wf : C11.WFHeader h) (body : Bits) (hm : e.magic < 2 ^ e.magicBits) :
    readInit (bitsToBytes (outgoingHeader e s cl false ++ encodeNotifHeader h ++ body ++ [true, true]))
      = some (outgoingHeader e s cl false ++ encodeNotifHeader h ++ body ++ [true]) ∧
    readOutgoingHeader e (outgoingHeader e s cl false ++ encodeNotifHeader h ++ body ++ [true]) = .ok (s % 4, cl % 8, false) (encodeNotifHeader h ++ body ++ [true]) ∧
    decodePacketHeader ((encodeNotifHeader h ++ body ++ [true]).dropLast) = .ok (h, body) := by
  refine ⟨?_, ?_, ?_⟩
  · rw [List.append_cons _ true [true]]; exact readInit_bitsToBytes _
  · -- the data path writes the outgoing header of the latest handshake version
    have : outgoingHeader e s cl false = hsOutgoingHeader e 3 s cl false := by
      unfold outgoingHeader hsOutgoingHeader; rw [if_pos (by decide), List.append_assoc (natToBits e.magic e.magicBits)]
    rw [this, List.append_assoc _ (encodeNotifHeader h) body, List.append_assoc _ (encodeNotifHeader h ++ body)]
    exact readHeader_hs e s cl false _ hm
  · have : (encodeNotifHeader h ++ body ++ [true]).dropLast = encodeNotifHeader h ++ body := by
      rw [List.dropLast_concat]
    rw [this]
    exact C11.header_round_trip h wf body

/-- what the receiving endpoint hands to `ReceivedPacket` for a data datagram `d` (`utcp_incoming`: strip the terminator, the outgoing
header, the connection-level terminator) -/
def wireBits (e : Env) (d : List UInt8) : Option Bits :=
  match readInit d with
  | none => none
  | some bits =>
    match readOutgoingHeader e bits with
    | .ok (_, _, false) rest => some rest.dropLast
    | _ => none

/-- a receiver `e` with the sender's magic-header configuration hands `ReceivedPacket` exactly the packet header and body the sender wrote -/
theorem wireBits_emitted {mb mg : Nat} (hfit : mg < 2 ^ mb) {e e' : Env} (he : e.magicBits = mb ∧ e.magic = mg) (he' : e'.magicBits = mb ∧ e'.magic = mg)
    (s cl : Nat) (h : NotifHeader) (wf : C11.WFHeader h) (body : Bits) :
    wireBits e (bitsToBytes (outgoingHeader e' s cl false ++ encodeNotifHeader h ++ body ++ [true, true])) = some (encodeNotifHeader h ++ body) ∧
    decodePacketHeader (encodeNotifHeader h ++ body) = .ok (h, body) := by
  have henv : outgoingHeader e' s cl false = outgoingHeader e s cl false := by unfold outgoingHeader; rw [he.1, he.2, he'.1, he'.2]
  obtain ⟨w1, w2, w3⟩ := wire_to_body e s cl h wf body (by rw [he.1, he.2]; exact hfit)
  rw [List.dropLast_concat] at w3
  refine ⟨?_, w3⟩
  unfold wireBits
  rw [henv, w1]
  simp only [w2, List.dropLast_concat]

/-- a receiver's history in which every packet is (the `ReceivedPacket` input for) a datagram the sender `S` emitted — in any order, any
number of times, or never -/
def FromLink (S : Conn) : List (Env × C01.Op) → Prop
  | [] => True
  | (e, .recv bits) :: rest => (∃ d, Event.out d ∈ S.log ∧ wireBits e d = some bits) ∧ FromLink S rest
  | _ :: rest => FromLink S rest

/-- the link hypothesis in the form the receiver-side theorems use: every packet the receiver is given has a good body with respect to the
bunches the sender accepted (numbered as the sender numbered them) -/
theorem link_offered (mb mg : Nat) (hfit : mg < 2 ^ mb) (opsS : List (Env × C18.Op)) (hS : ∀ p ∈ opsS, p.1.magicBits = mb ∧ p.1.magic = mg) (iS oS : Int) :
    ∀ (ops : List (Env × C01.Op)), (∀ p ∈ ops, p.1.magicBits = mb ∧ p.1.magic = mg) →
      FromLink (C18.run (({} : Conn).seqInit iS oS) opsS) ops → Offered (sentOf (({} : Conn).seqInit iS oS) opsS []) ops := by
  intro ops
  induction ops with
  | nil => intro _ _; trivial
  | cons p rest ih =>
    intro hall hl
    obtain ⟨e, op⟩ := p
    have he := hall (e, op) List.mem_cons_self
    have hrest : ∀ q ∈ rest, q.1.magicBits = mb ∧ q.1.magic = mg := fun q hq => hall q (List.mem_cons_of_mem _ hq)
    cases op with
    | send b => exact ih hrest hl
    | flush => exact ih hrest hl
    | recv bits =>
      simp only [FromLink] at hl
      obtain ⟨⟨d, hd, hw⟩, hl'⟩ := hl
      refine ⟨?_, ih hrest hl'⟩
      obtain ⟨e', s, cl, hh, body, he', wf, rfl, hgood⟩ := sender_emits_only_sent mb mg opsS hS iS oS d hd
      -- the receiver's environment has the sender's magic configuration, so its parse of `d` yields exactly header and body
      obtain ⟨hwb, hdec⟩ := wireBits_emitted hfit he he' s cl hh wf body
      rw [hwb] at hw
      cases hw
      intro hd' body' hdec'
      rw [hdec] at hdec'
      cases hdec'
      exact hgood

/-- **end to end.**  `S` is any sender state reached from `utcp_sequence_init` by any history; the receiver is fed, in any order and with
any duplication or loss, only datagrams that `S` emitted (both ends under the magic-header configuration `(mb, mg)`, which fits its
width), interleaved with its own sends and flushes.  Then every bunch of every callback the receiver makes looks — flags, channel, close
reason, name index, payload — like a bunch that the sender's `utcp_send_bunch` accepted, and, if reliable, carries that bunch's channel
sequence number modulo 1024 (the receiver's number is the absolute value it reconstructed; `Props/C01_Link.lean` shows when the two are
equal). -/
theorem link_integrity (mb mg : Nat) (hfit : mg < 2 ^ mb) (opsS : List (Env × C18.Op)) (hS : ∀ p ∈ opsS, p.1.magicBits = mb ∧ p.1.magic = mg) (iS oS : Int)
    (opsR : List (Env × C01.Op)) (hR : ∀ p ∈ opsR, p.1.magicBits = mb ∧ p.1.magic = mg) (iR oR : Int)
    (hlink : FromLink (C18.run (({} : Conn).seqInit iS oS) opsS) opsR)
    (g : List Bunch) (hg : Event.recv g ∈ (C01.run (({} : Conn).seqInit iR oR) opsR).log) :
    ∀ q ∈ g, ∃ b ∈ sentOf (({} : Conn).seqInit iS oS) opsS [], seen q = seen b ∧ (q.bReliable = true → q.chSeq % 1024 = b.chSeq % 1024) :=
  delivered_were_sent (sentOf (({} : Conn).seqInit iS oS) opsS []) opsR iR oR (link_offered mb mg hfit opsS hS iS oS opsR hR hlink) g hg

end Utcp.Props.C04
