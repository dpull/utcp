import Utcp.Lemmas.Conn
import Utcp.Lemmas.Bunch
/-!
# C14 — a rejected send has no effect on the connection

`Conn.sendBunch` is the model of `utcp_send_bunch` → `SendRawBunch` (after the repair of defect D9: every
check precedes every effect).  The theorems hold for *every* request: any channel index, any payload
length, unknown channels, reliable or not.
-/
namespace Utcp.Props.C14
open Utcp Utcp.Gen

theorem limits : maxChannels = 32767 ∧ maxSingleBunchBits = 7844 ∧ closeReasonMax = 15 ∧
    Gen.PKT_MAX_SINGLE_BUNCH_SIZE_BITS = Gen.UTCP_MAX_PACKET * 8 - Gen.MAX_PACKET_TRAILER_BITS - Gen.MAX_PACKET_HEADER_BITS - Gen.MAX_PACKET_HANDLER_BITS := by decide

theorem commit_ret_nonneg (e : Env) (c : Conn) (b : Bunch) (h0 : Bits) (hid : 0 ≤ c.outPacketId)
    (hch : (c.getChan b.chIndex).isSome ∨ b.bOpen = true) : 0 ≤ (c.sendCommit e b h0).2 := by
  obtain ⟨x, hx⟩ := getOrCreateChan_some c b false (hch.imp_right .inl)
  obtain ⟨y, hy⟩ := Option.isSome_iff_exists.mp (noteClose_getChan_isSome (c.getOrCreateChan b false).1 b b.chIndex (by rw [hx]; rfl))
  have hp0 : 0 ≤ ((c.getOrCreateChan b false).1.noteClose b).outPacketId := by
    rw [noteClose_outPacketId, getOrCreateChan_outPacketId]; exact hid
  -- reliable or not, the id returned is that of the packet the write goes into, and preparing the write never lowers the id
  cases hrel : b.bReliable with
  | true =>
    rw [sendCommit_reliable e c b h0 y hrel hy]
    dsimp only
    rw [writeBits_snd]
    exact Int.le_trans hp0 (prepareWrite_outPacketId_ge e (Conn.setChan _ _ _) _)
  | false =>
    rw [sendCommit_unreliable e c b h0 y hrel hy, writeBits_snd]
    exact Int.le_trans hp0 (prepareWrite_outPacketId_ge e _ _)

theorem sendBunch_neg_iff (e : Env) (c : Conn) (b : Bunch) (hid : 0 ≤ c.outPacketId) :
    (c.sendBunch e b).2 < 0 ↔ ∃ err, c.sendCheck b = .inl err := by
  unfold Conn.sendBunch Conn.sendRaw
  cases hc : c.sendCheck b with
  | inl err =>
    simp only [show ¬ (err ≥ 0) from Int.not_le.2 (sendCheck_cases hc).1, if_false]
    exact ⟨fun _ => ⟨err, rfl⟩, fun _ => by decide⟩
  | inr h0 =>
    have hnn := commit_ret_nonneg e c b h0 hid (sendCheck_cases hc).2.1
    simp only [hnn, if_true]
    exact ⟨fun h => absurd hnn (Int.not_le.2 h), fun ⟨_, h⟩ => nomatch h⟩

/-- **frame**: a send that reports failure returns the connection it was given — no state change, no event
(so no datagram, no allocation, no sequence number consumed, no channel created or marked closed).
`0 ≤ outPacketId` is an invariant of every connection (ids start at a 14-bit value and only grow). -/
theorem reject_frame (e : Env) (c : Conn) (b : Bunch) (hid : 0 ≤ c.outPacketId) (h : (c.sendBunch e b).2 < 0) :
    (c.sendBunch e b).1 = c := by
  obtain ⟨err, hc⟩ := (sendBunch_neg_iff e c b hid).1 h
  exact sendBunch_refused e hc

/-- the public return value is the packet id or exactly `-1` (`PACKET_ID_INDEX_NONE`) -/
theorem ret_range (e : Env) (c : Conn) (b : Bunch) : 0 ≤ (c.sendBunch e b).2 ∨ (c.sendBunch e b).2 = -1 := by
  unfold Conn.sendBunch
  by_cases h : (c.sendRaw e b).2 ≥ 0
  · left; simp [h]
  · right; simp [h]

/-- **when** a send is refused: channel index outside the table, a non-opening bunch for a channel that does not
exist, a close reason the header cannot carry, or header + payload beyond what an empty packet can hold -/
theorem reject_iff (e : Env) (c : Conn) (b : Bunch) (hid : 0 ≤ c.outPacketId) :
    (c.sendBunch e b).2 < 0 ↔
      (b.chIndex ≥ 32767 ∨ ((c.getChan b.chIndex).isNone ∧ b.bOpen = false) ∨ encodeBunchHeader { b with chSeq := 0 } = none
        ∨ ∃ h0, encodeBunchHeader { b with chSeq := 0 } = some h0 ∧ h0.length + b.data.length > 7844) := by
  rw [sendBunch_neg_iff e c b hid]
  cases hc : c.sendCheck b with
  | inl err => exact ⟨fun _ => (sendCheck_cases hc).2, fun _ => ⟨err, rfl⟩⟩
  | inr h0 =>
    obtain ⟨hlt, hch, henc, hfit⟩ := sendCheck_cases hc
    refine ⟨fun ⟨_, h⟩ => (nomatch h), fun h => False.elim ?_⟩
    rw [henc] at h
    rcases h with h | ⟨h1, h2⟩ | h | ⟨h1, h2, h3⟩
    · exact Nat.not_le.mpr hlt h
    · rcases hch with hch | hch
      · rw [Option.isNone_iff_eq_none] at h1; rw [h1] at hch; cases hch
      · rw [hch] at h2; cases h2
    · cases h
    · cases h2; exact Nat.not_lt.mpr hfit h3

/-- an accepted bunch (header + payload) fits into an empty packet whatever the ack-history length is -/
theorem accepted_fits (c : Conn) (b : Bunch) (h0 : Bits) (h : c.sendCheck b = .inr h0) :
    h0.length + b.data.length ≤ 7844 ∧ b.chIndex < 32767 ∧ encodeBunchHeader { b with chSeq := 0 } = some h0 := by
  obtain ⟨h1, _, h2, h3⟩ := sendCheck_cases h
  exact ⟨h3, h1, h2⟩

/-- the header never needs more than 118 bits: a payload within the documented single-bunch limit (7265 bits) stays below the bound
of `reject_iff`, since 7265 + 118 ≤ 7844 -/
theorem header_bound (b : Bunch) (h : Bits) (hh : encodeBunchHeader b = some h) : h.length ≤ 118 := by
  rw [((encodeBunchHeader_eq_some_iff b h).1 hh).2]; exact hdrBits_length_le b

/-! non-vacuity: a fresh connection refuses an unknown channel and a channel index outside the table -/
example : (({} : Conn).sendBunch {} { chIndex := 3, bReliable := true }).2 = -1 := by decide
example : (({} : Conn).sendBunch {} { chIndex := 40000, bOpen := true }).2 = -1 := by decide

end Utcp.Props.C14
