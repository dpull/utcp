import Utcp.Props.C09_Init
/-!
# C20 / C09 at the level of the byte array: the packet-id peek

`utcp_peep_packet_id` — `bitbuf_read_init`, `read_packet_header`, then `PeekPacketId`: `packet_notify_read_header` (packed word, history words one by one) and
the acceptance test — on the byte array.  For every byte string it touches nothing outside the datagram and its small locals, changes no state (it has none to
change: the function below takes the connection only to read two counters) and returns exactly what the bit-level `Endpoint.peek` returns, the function the
C20 theorems are about.
-/
namespace Utcp.BB
open Utcp

/-- `utcp_peep_packet_id` from the read buffer on -/
def lPeek (e : Env) (c : Conn) (m4 s1 c1 : Mem) (b : Buf) : Option Int :=
  match lReadOutgoingHeader e m4 s1 c1 b with
  | none => none
  | some (none, _) => some (-2)
  | some (some (_, _, true), _) => some 0
  | some (some (_, _, false), b1) =>
    match lReadU32 b1 with
    | none => none
    | some (none, _) => some (-1)
    | some (some packed, b2) =>
      match lReadWords (min histWordsMax ((packed % 16) + 1)) b2 with
      | none => none
      | some (none, _) => some (-2)
      | some (some ws, _) =>
        let d := c.notify.deltaSeq (notifOf packed ws)
        some (if d ≤ 0 then -8 else c.inPacketId + d)

/-- **the peek on the byte array is the bit-level peek, and never leaves the datagram**: for every byte string that `bitbuf_read_init` accepts -/
theorem lPeek_refines (e : Env) (he : e.magicBits ≤ 32) (ep : Endpoint) (bytes : List UInt8) (bits : Bits) (hinit : Utcp.readInit bytes = some bits)
    (m4 s1 c1 : Mem) (hm : BytesOK m4) (hs : BytesOK s1) (hc : BytesOK c1) (lm : 4 ≤ m4.length) (ls : 1 ≤ s1.length) (lc : 1 ≤ c1.length) :
    ∃ rb, readInit (memOf bytes) = some (true, rb) ∧ lPeek e ep.c m4 s1 c1 rb = some (ep.peek e bytes) := by
  obtain ⟨n, h1, hrest, hrb⟩ := readInit_accepts bytes bits hinit
  refine ⟨_, h1, ?_⟩
  unfold Endpoint.peek
  rw [hinit]
  simp only
  unfold lPeek
  obtain ⟨r1, b1, g1, hrb1, _, _, hS1⟩ := lReadOutgoingHeader_refines e he m4 s1 c1 hm hs hc lm ls lc _ hrb
  rw [hrest] at hS1
  rw [g1, hS1]
  cases r1 with
  | none => rfl
  | some v =>
    obtain ⟨s, cl, isHs⟩ := v
    cases isHs with
    | true => rfl
    | false =>
      simp only [Bool.false_eq_true, if_false]
      obtain ⟨r2, b2, g2, hrb2, _, _, hS2⟩ := lReadU32_refines b1 hrb1
      rw [g2, hS2]
      cases r2 with
      | none => rfl
      | some packed =>
        simp only
        rcases readWords_run (min histWordsMax ((packed % 16) + 1)) (rest b2) with ⟨ws, hws, hrun⟩ | ⟨r, hr, hrun⟩
        · obtain ⟨b3, g3, _⟩ := (lReadWords_refines _).ok hrb2 hws
          rw [g3, hrun]
          rfl
        · obtain ⟨b3, g3⟩ := (lReadWords_refines _).fail hrb2 hr
          rw [g3, hrun]

/-- … and what `bitbuf_read_init` refuses (the C function then returns `-1`) the bit-level peek answers with `-1` -/
theorem lPeek_refused (e : Env) (ep : Endpoint) (bytes : List UInt8) (h : Utcp.readInit bytes = none) :
    ep.peek e bytes = -1 ∧ ∃ rb, readInit (memOf bytes) = some (false, rb) :=
  ⟨by unfold Endpoint.peek; rw [h], readInit_refuses_link bytes h⟩

/-! non-vacuity: locals of the sizes the C declares -/
example : BytesOK [0, 0, 0, 0] ∧ 4 ≤ [0, 0, 0, 0].length := ⟨by intro x hx; simp at hx; omega, by decide⟩

end Utcp.BB
