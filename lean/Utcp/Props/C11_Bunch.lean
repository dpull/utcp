import Utcp.Props.C11_Bytes
import Utcp.Props.C09_Bytes
import Utcp.Props.C12_Bytes
import Utcp.Props.C11
/-!
# C11 at the level of the byte array: a whole bunch, written and read back

`SendRawBunch` serialises a bunch as `utcp_bunch_write_header` followed by one `bitbuf_write_bits(Data, DataBitsLen)`.  On the byte array that is the header's
call list followed by one run; it appends exactly the bits of the bit-level `encodeBunch` — for which `Props/C11.lean` proves that `decodeBunch` (which
`Props/C09_Bytes.lean` shows the byte-level parser to compute) recovers the bunch and stops exactly behind it.
-/
namespace Utcp.BB
open Utcp

/-- header, then the payload as one run of `data.length` bits taken from the array `src` (the bunch's `Data` field) -/
def bunchOps (b : Bunch) (src : Mem) : List LOp := headerOps b ++ [LOp.run src b.data.length]

theorem bunchOps_ok (bunch : Bunch) (hr : bunch.bClose = true → bunch.closeReason < 15) (hch : bunch.chIndex < 2 ^ 32) (hname : bunch.nameIndex < 2 ^ 32)
    (src : Mem) (hsrc : BytesOK src) (hfit : bunch.data.length ≤ 8 * src.length) : ∀ o ∈ bunchOps bunch src, o.ok :=
  LOp.ok_append (headerOps_ok bunch (closeReasonMax_eq ▸ hr) hch hname) (LOp.ok_cons ⟨hsrc, hfit⟩ LOp.ok_nil)

/-- header and payload of a bunch written into a zeroed buffer with room: behind what the buffer held stand exactly `encodeBunch`'s bits, and the cursor
has moved by at most `needAll` of the calls (the bound of `writeAll_spec`; it is what leaves room for the terminator in `bunch_bytes_round_trip`) -/
theorem write_bunch_bytes_le (bunch : Bunch) (bits : Bits) (henc : encodeBunch bunch = some bits) (hch : bunch.chIndex < 2 ^ 32) (hname : bunch.nameIndex < 2 ^ 32)
    (src : Mem) (hsrc : BytesOK src) (hfit : bunch.data.length ≤ 8 * src.length) (hdata : bitsFrom src 0 bunch.data.length = bunch.data)
    (b : Buf) (hb : WB b) (hroom : b.num + needAll (bunchOps bunch src) ≤ b.size) :
    ∃ b', writeAll (bunchOps bunch src) b = some (true, b') ∧ WB b' ∧ b'.size = b.size ∧ content b' = content b ++ bits ∧
      b'.num ≤ b.num + needAll (bunchOps bunch src) := by
  unfold encodeBunch at henc
  cases hh : encodeBunchHeader bunch with
  | none => simp [hh] at henc
  | some hdr =>
    simp only [hh, Option.some.injEq] at henc
    obtain ⟨b', h1, h2, h3, h4, h5⟩ := writeAll_spec (bunchOps bunch src) b
      (bunchOps_ok bunch ((encodeBunchHeader_eq_some_iff bunch hdr).1 hh).1 hch hname src hsrc hfit) hb hroom
    refine ⟨b', h1, h2, h3, ?_, h5⟩
    rw [h4, ← henc, bunchOps, List.flatMap_append, headerOps_bits bunch hdr hh]
    simp [LOp.bits, hdata]

/-- **a whole bunch on the byte array**: into a zeroed buffer with room, header and payload are written without touching a byte outside the buffer, and the
buffer then holds, behind what it held, exactly `encodeBunch`'s bits; `src` is any array whose first `data.length` bits are the payload -/
theorem write_bunch_bytes (bunch : Bunch) (bits : Bits) (henc : encodeBunch bunch = some bits) (hch : bunch.chIndex < 2 ^ 32) (hname : bunch.nameIndex < 2 ^ 32)
    (src : Mem) (hsrc : BytesOK src) (hfit : bunch.data.length ≤ 8 * src.length) (hdata : bitsFrom src 0 bunch.data.length = bunch.data)
    (b : Buf) (hb : WB b) (hroom : b.num + needAll (bunchOps bunch src) ≤ b.size) :
    ∃ b', writeAll (bunchOps bunch src) b = some (true, b') ∧ WB b' ∧ b'.size = b.size ∧ content b' = content b ++ bits := by
  obtain ⟨b', h1, h2, h3, h4, _⟩ := write_bunch_bytes_le bunch bits henc hch hname src hsrc hfit hdata b hb hroom
  exact ⟨b', h1, h2, h3, h4⟩

/-! non-vacuity of `hdata`: the 3-bit payload `1 0 1` taken from the array `[5]` -/
example : bitsFrom [5] 0 3 = [true, false, true] := by decide

/-- **a bunch written on the byte array and read back from the datagram, at any bit offset**: a well-formed bunch is written (header calls, payload run) into a
zeroed buffer behind the `b.num` bits already there; the buffer is closed (`bitbuf_write_end`) and the datagram — exactly the bytes holding valid bits — is
opened with `bitbuf_read_init`; the parser, started at bit `b.num`, touches nothing outside the datagram and its node, returns the bunch as the wire
carries it (sequence modulo 1024) and stops exactly at the end -/
theorem bunch_bytes_round_trip (bunch : Bunch) (hwf : WFBunch bunch) (hch : bunch.chIndex < 2 ^ 32) (hname : bunch.nameIndex < 2 ^ 32)
    (src : Mem) (hsrc : BytesOK src) (hfit : bunch.data.length ≤ 8 * src.length) (hdata : bitsFrom src 0 bunch.data.length = bunch.data)
    (b : Buf) (hb : WB b) (hroom : b.num + needAll (bunchOps bunch src) + 1 ≤ b.size)
    (node : Mem) (hnode : BytesOK node) (hlen : 1024 ≤ node.length) :
    ∃ b1 b2 rb, writeAll (bunchOps bunch src) b = some (true, b1) ∧ writeEnd b1 = some (true, b2) ∧
      readInit (b2.mem.take ((b2.num + 7) / 8)) = some (true, rb) ∧
      ∃ rb', lDecodeBunch node { rb with num := b.num } = some (some (wireView bunch), rb') ∧ rb'.num = rb'.size := by
  obtain ⟨bits, henc, hdec⟩ := Props.C11.decode_encode bunch hwf []
  obtain ⟨b1, h1, hwb1, hs1, hc1, hle1⟩ := write_bunch_bytes_le bunch bits henc hch hname src hsrc hfit hdata b hb (Nat.le_of_succ_le hroom)
  have hn1 : b1.num = b.num + bits.length := num_of_content_append hc1
  obtain ⟨b2, h2, hn2, rb, h3, hrb, _, hrest⟩ := finish_then_init b1 hwb1 (hs1 ▸ Nat.le_trans (Nat.succ_le_succ hle1) hroom)
  have hnum0 := readInit_num _ _ _ h3
  have hsize : rb.size = b1.num := by
    have := congrArg List.length hrest
    rwa [rest_length, content_length, hnum0, Nat.sub_zero] at this
  have hk : b.num ≤ rb.size := by rw [hsize, hn1]; exact Nat.le_add_right _ _
  -- behind the bits that were there before, the datagram holds the bunch
  have hbits : rest { rb with num := b.num } = bits ++ [] := by
    have := rest_drop rb b.num (by rw [hnum0, Nat.zero_add]; exact hk)
    rw [hnum0, Nat.zero_add, hrest, hc1, List.drop_left' (content_length b)] at this
    rw [this, List.append_nil]
  obtain ⟨rb', h4, hrb', hr⟩ := (lDecodeBunch_refines node hnode hlen).ok (b := { rb with num := b.num }) ⟨hrb.bytes, hrb.size, hk⟩ (hbits ▸ hdec)
  refine ⟨b1, b2, rb, h1, h2, h3, rb', h4, ?_⟩
  -- nothing is left
  have := congrArg List.length hr
  rw [rest_length, List.length_nil] at this
  exact Nat.le_antisymm hrb'.num (Nat.le_of_sub_eq_zero this)

end Utcp.BB
