import Utcp.Lemmas.Bunch
import Utcp.Lemmas.Frame
import Utcp.Lemmas.Pack
/-!
# C11 — bunch wire format round-trips exactly and is self-delimiting

S-level statements: a packet is a bit list, so "at every starting bit offset" is the quantification over the
arbitrary `rest` that follows and the arbitrary prefix that precedes (a reader is handed the remainder the
previous reader returned).  The byte-level primitives are tied to these bit-level ones by C12 and by the
correspondence runs (every datagram byte is compared).
-/
namespace Utcp.Props.C11
open Utcp

/-- **bunch round trip**: parsing what the serializer wrote yields the same bunch (sequence modulo 1024) and
consumes exactly the bits written — whatever follows is returned untouched. -/
theorem decode_encode (b : Bunch) (h : WFBunch b) (rest : Bits) :
    ∃ bits, encodeBunch b = some bits ∧ decodeBunch (bits ++ rest) = .ok (wireView b) rest := by
  obtain ⟨hr, hch, hpi, hpf, hnl, hn0, hlen, hs0⟩ := h
  have henc : encodeBunch b = some (hdrBits b ++ b.data) := by
    rw [encodeBunch_eq, if_neg]; intro ⟨hc, h15⟩; rw [hc, if_pos rfl] at hr; exact Nat.not_lt.mpr h15 hr
  refine ⟨_, henc, ?_⟩
  have hname0 : (b.bReliable || b.bOpen) = false → b.nameIndex = 0 := by
    intro hh; simp at hh; exact hn0 hh.1 hh.2
  unfold decodeBunch hdrBits
  rw [maxPacketBits_eq]
  simp only [List.append_assoc, Rd.bind_apply, readCtl_write _ _ _ hr, List.cons_append, List.nil_append, readBit_cons,
    readIntPacked_write, readSeq_write _ _ hs0, readPartialFlags_write _ _ _ hpi hpf,
    readName_write _ _ hnl hname0, readInt_wrapped_pow2 13 _ _ (by decide), Nat.mod_eq_of_lt (show b.data.length < 2 ^ 13 from hlen),
    readBits_append, Rd.pure_apply]
  rw [Nat.mod_eq_of_lt (Nat.lt_trans hch (by decide)), Nat.mod_eq_of_lt hch, Int.toNat_of_nonneg (Int.emod_nonneg _ (by decide))]
  rfl

/-- the serializer refuses exactly the bunches whose close reason it cannot represent -/
theorem encode_none_iff (b : Bunch) : encodeBunch b = none ↔ (b.bClose = true ∧ 15 ≤ b.closeReason) := by
  rw [encodeBunch_eq]; split <;> simp [*]

/-- every encoding is non-empty (a reader always makes progress) -/
theorem encode_nonempty (b : Bunch) (bits : Bits) (h : encodeBunch b = some bits) : bits ≠ [] := by
  rw [encodeBunch_eq] at h
  split at h
  · cases h
  · rw [← Option.some.inj h]; exact List.append_ne_nil_of_left_ne_nil (hdrBits_ne_nil b) _

/-- parse a packet body as a sequence of back-to-back bunches -/
def decodeMany : Nat → Bits → Option (List Bunch)
  | 0, bs => if bs.isEmpty then some [] else none
  | f+1, bs => if bs.isEmpty then some [] else
    match decodeBunch bs with
    | .ok b rest => (decodeMany f rest).map (b :: ·)
    | .fail _ => none

/-- serialize a list of bunches back to back (`none` if one is refused) -/
def encodeMany : List Bunch → Option Bits
  | [] => some []
  | b :: bs => match encodeBunch b, encodeMany bs with
    | some x, some y => some (x ++ y)
    | _, _ => none

/-- **self-delimiting**: any number of bunches packed back to back (at whatever bit offset the previous one
ended) are recovered in order with nothing left over -/
theorem decode_concat (bs : List Bunch) (h : ∀ b ∈ bs, WFBunch b) :
    ∃ bits, encodeMany bs = some bits ∧ decodeMany bs.length bits = some (bs.map wireView) := by
  induction bs with
  | nil => exact ⟨[], rfl, rfl⟩
  | cons b bs ih =>
    obtain ⟨tl, htl, hdec⟩ := ih (fun x hx => h x (List.mem_cons_of_mem _ hx))
    obtain ⟨hd, hhd, hdd⟩ := decode_encode b (h b (List.mem_cons_self)) tl
    refine ⟨hd ++ tl, by simp [encodeMany, hhd, htl], ?_⟩
    have : (hd ++ tl).isEmpty = false :=
      List.isEmpty_eq_false_iff.mpr fun h => encode_nonempty b hd hhd (List.append_eq_nil_iff.mp h).1
    simp [decodeMany, this, hdd, hdec]

/-! ## packet header (sequence, acknowledged sequence, 1–8 history words) -/

structure WFHeader (h : NotifHeader) : Prop where
  seq : 0 ≤ h.seq ∧ h.seq < 16384
  acked : 0 ≤ h.ackedSeq ∧ h.ackedSeq < 16384
  words : 1 ≤ h.words ∧ h.words ≤ 8
  hist : h.hist.length = 32 * h.words

/-- the word count fits the four bits it is written in, as `words - 1` -/
theorem WFHeader.words_pred_lt {h : NotifHeader} (wf : WFHeader h) : h.words - 1 < 16 :=
  Nat.lt_of_le_of_lt (Nat.le_trans (Nat.sub_le _ 1) wf.words.2) (by decide)

theorem header_round_trip (h : NotifHeader) (wf : WFHeader h) (rest : Bits) :
    decodePacketHeader (encodeNotifHeader h ++ rest) = .ok (h, rest) := by
  have hw := wf.words_pred_lt
  obtain ⟨⟨hs0, hs1⟩, ⟨ha0, ha1⟩, ⟨hw0, hw1⟩, hh⟩ := wf
  have hs : h.seq.toNat < 16384 := (Int.toNat_lt hs0).2 hs1
  have ha : h.ackedSeq.toNat < 16384 := (Int.toNat_lt ha0).2 ha1
  obtain ⟨f1, f2, f3⟩ := hdrWord_fields (s := h.seq.toNat) ha hw
  have hwords : min histWordsMax (h.words - 1 + 1) = h.words := by
    rw [Nat.sub_add_cancel hw0]; exact Nat.min_eq_right hw1
  rw [encodeNotifHeader_eq, Nat.mod_eq_of_lt hs, Nat.mod_eq_of_lt ha, Nat.mod_eq_of_lt hw,
    decodePacketHeader_write _ _ _ (hdrWord_lt hs ha hw) (by rw [f3, hwords, hh]),
    f1, f2, f3, hwords, Nat.mod_eq_of_lt hs, Int.toNat_of_nonneg hs0, Int.toNat_of_nonneg ha0]

/-- **datagram framing**: the bits recovered from a datagram (`bitbuf_read_init`) are exactly the bits written
before the terminator bit, for every bit count (not only whole bytes) -/
theorem framing_round_trip (bits : Bits) : readInit (bitsToBytes (bits ++ [true])) = some bits :=
  readInit_bitsToBytes bits

example : WFBunch { chIndex := 32766, bOpen := true, bClose := true, closeReason := 14, bReliable := true, bPartial := true,
                    bPartialInitial := true, nameIndex := 4294967295, chSeq := 123456, data := [true, false, true] } := by
  constructor <;> simp
example : WFHeader { seq := 16383, ackedSeq := 0, words := 2, hist := List.replicate 64 true } := by
  constructor <;> simp

end Utcp.Props.C11
