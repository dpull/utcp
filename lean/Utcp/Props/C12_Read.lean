import Utcp.Lemmas.ByteBits
import Utcp.Lemmas.ByteCopySpec
/-!
# C12 at the level of the byte array: the readers

Each `bitbuf_read_*` of `Utcp/ByteBuf.lean` does, on the bits that are left in the buffer, what the bit-level reader of `Utcp/BitIO.lean` does: same value or
failure, same remainder.  The result is always `some _`: no byte outside the arrays is read or written.  `bitbuf_read_init` finds the logical end from
the last byte alone (`readInit_spec`).
-/
namespace Utcp.BB

theorem rest_split (b : Buf) (n : Nat) (hfit : b.num + n ≤ b.size) :
    rest b = bitsFrom b.mem b.num n ++ rest { b with num := b.num + n } :=
  bitsFrom_split b.mem b.num b.size n hfit

theorem rest_drop (b : Buf) (n : Nat) (hfit : b.num + n ≤ b.size) : rest { b with num := b.num + n } = (rest b).drop n := by
  rw [rest_split b n hfit, List.drop_left' (bitsFrom_length ..)]

/-- `bitbuf_read_bit` is the bit-level `readBit` on the bits that are left; the array is only touched below `size` -/
theorem readBit_refines (b : Buf) (hb : RB b) :
    ∃ ok v b', readBit b = some (ok, v, b') ∧ RB b' ∧ b'.mem = b.mem ∧ b'.size = b.size ∧
      Utcp.readBit (rest b) = (if ok then .ok (decide (v = 1)) (rest b') else .fail (rest b')) ∧ (ok = false → b' = b) := by
  unfold readBit allowOpt
  by_cases hfit : b.num + 1 ≤ b.size
  · simp only [hfit, decide_true, Bool.not_true, Bool.false_eq_true, if_false]
    rw [testAt_spec _ _ (Nat.lt_of_lt_of_le hfit hb.size)]
    refine ⟨true, _, _, rfl, ⟨hb.bytes, hb.size, hfit⟩, rfl, rfl, ?_, by simp⟩
    rw [rest_split b 1 hfit]
    simp only [bitsFrom, Utcp.readBit, if_true]
    cases bit b.mem b.num <;> simp
  · refine ⟨false, 0, b, by simp [hfit], hb, rfl, rfl, ?_, by simp⟩
    have hnone : b.size - b.num = 0 := Nat.sub_eq_zero_of_le (Nat.le_of_lt_succ (Nat.lt_of_not_le hfit))
    rw [List.eq_nil_of_length_eq_zero (show (rest b).length = 0 by rw [rest_length, hnone])]
    rfl

/-- the end of every successful branch of `bitbuf_read_bits`: the array holds the `n` bits from the cursor -/
theorem readBits_done (b : Buf) (n : Nat) (hfit : b.num + n ≤ b.size) (out' : Mem) (hbits : ∀ i, i < n → bit out' i = bit b.mem (b.num + i)) :
    Utcp.readBits n (rest b) = .ok (bitsFrom out' 0 n) (rest { b with num := b.num + n }) := by
  rw [rest_split b n hfit, Utcp.readBits_append' n _ _ (by simp)]
  congr 1
  exact bitsFrom_shift _ _ _ _ _ fun i hi => by rw [Nat.zero_add, hbits i hi]

/-- `bitbuf_read_bits` into any array that holds `(n+7)/8` bytes (the caller's local, or the 1452-byte data field of a bunch): the bit-level
`readBits` on what is left; the array receives the bits, the unused top bits of their last byte are zero; nothing outside that array and nothing
beyond the byte of the last valid bit of the buffer is touched -/
theorem readBits_refines (b : Buf) (hb : RB b) (out : Mem) (hout : BytesOK out) (n : Nat) (hlen : (n + 7) / 8 ≤ out.length) :
    ∃ ok out' b', readBits b out n = some (ok, out', b') ∧ RB b' ∧ b'.mem = b.mem ∧ b'.size = b.size ∧ out'.length = out.length ∧ BytesOK out' ∧
      Utcp.readBits n (rest b) = (if ok then .ok (bitsFrom out' 0 n) (rest b') else .fail (rest b')) ∧
      (ok = true → ∀ k, n ≤ k → k < 8 * ((n + 7) / 8) → bit out' k = false) ∧ (ok = false → b' = b ∧ out' = out) := by
  unfold readBits allowOpt
  have hs := hb.size
  by_cases hfit : b.num + n ≤ b.size
  · simp only [hfit, decide_true, Bool.not_true, Bool.false_eq_true, if_false]
    have hrb : RB { b with num := b.num + n } := ⟨hb.bytes, hb.size, hfit⟩
    by_cases h0 : n = 0
    · subst h0
      exact ⟨true, out, b, rfl, hb, rfl, rfl, rfl, hout, by simp [Utcp.readBits, bitsFrom], fun _ k _ hk => absurd hk (Nat.not_lt_zero k), by simp⟩
    -- `L`: the byte the last of the `n` bits will occupy
    obtain ⟨L, hL, hLn, hnL⟩ := last_byte_of_bits h0
    rw [hL] at hlen ⊢
    rw [Nat.add_sub_cancel]
    have hroom : 0 + n ≤ 8 * out.length := (Nat.zero_add n).symm ▸ Nat.le_trans hnL (Nat.mul_le_mul_left 8 hlen)
    -- that byte is cleared first
    obtain ⟨o0, hw0, hu0⟩ := wr_upd out hout L 0 0 8 (fun _ => false) hlen (Nat.le_refl 8) (fun j hj => by simp [hj]) rfl rfl
    -- then every branch puts the `n` bits at bit 0
    suffices h : ∃ o1 f, _ = some (true, o1, ({ b with num := b.num + n } : Buf)) ∧ Upd o0 o1 0 n f ∧ ∀ i, i < n → f i = bit b.mem (b.num + i) by
      obtain ⟨o1, f, hp, hu1, hf⟩ := h
      exact ⟨true, o1, _, hp, hrb, rfl, rfl, hu1.1.trans hu0.1, hu1.2.1,
        readBits_done b n hfit o1 fun i hi => by rw [hu1.2.2 i, if_pos ⟨Nat.zero_le _, hi⟩, hf i hi],
        fun _ k hk1 hk => by rw [hu1.2.2 k, if_neg (fun h => Nat.not_lt.mpr hk1 h.2), hu0.2.2 k, if_pos ⟨Nat.le_trans hLn hk1, hk⟩], by simp⟩
    by_cases h1 : n = 1
    · subst h1
      obtain rfl : L = 0 := Nat.succ.inj hL.symm    -- `(1 + 7) / 8 = 1`
      rw [if_pos rfl, hw0]
      simp only [Option.bind_some]
      rw [testAt_spec _ _ (Nat.lt_of_lt_of_le hfit hs)]
      simp only [Option.bind_some]
      -- the one-bit store of the writers, into the byte just cleared
      obtain ⟨o1, hs1, hw1⟩ := bit_store (bit b.mem b.num) o0 0 hu0.2.1 (by rw [hu0.2.2 0, if_pos (by decide)]) (hu0.1 ▸ hroom)
      refine ⟨o1, _, ?_, hw1, fun i hi => by rw [Nat.lt_one_iff.mp hi]; rfl⟩
      cases hbit : bit b.mem b.num <;> rw [hbit] at hs1
      · rw [Option.some.inj hs1]; rfl
      · rw [if_pos rfl, ← Option.bind_assoc, show ((rd o0 0).bind fun x => wr o0 0 (x ||| 1)) = some o1 from hs1]; rfl
    · rw [if_neg h1, if_pos h0, hw0]
      simp only [Option.bind_some]
      obtain ⟨o1, ho1, hu1⟩ := appBitsCpy_upd o0 b.mem hu0.2.1 hb.bytes 0 b.num n (hu0.1 ▸ hroom) (Nat.le_trans hfit hs)
      rw [ho1]
      exact ⟨o1, _, rfl, hu1.cast rfl (Nat.zero_add n), fun i _ => by rw [srcAt, Nat.sub_zero]⟩
  · refine ⟨false, out, b, by simp [hfit], hb, rfl, rfl, rfl, hout, ?_, by simp, by simp⟩
    simp only [Bool.false_eq_true, if_false]
    exact Utcp.readBits_fail n _ (by rw [rest_length]; exact Nat.sub_lt_left_of_lt_add hb.num (Nat.lt_of_not_le hfit))

theorem rIntLoop_spec (m : Mem) (size mx : Nat) (start : Bits) (hs : size ≤ 8 * m.length) :
    ∀ (fuel i value pos : Nat), value < 2 ^ i → pos ≤ size →
      ∃ r, rIntLoop fuel m size mx (2 ^ i) value pos = some r ∧
        match r with
        | none => Utcp.rIntLoop fuel mx (2 ^ i) value start (bitsFrom m pos (size - pos)) = .fail start
        | some (v, pos') => pos ≤ pos' ∧ pos' ≤ size ∧
            Utcp.rIntLoop fuel mx (2 ^ i) value start (bitsFrom m pos (size - pos)) = .ok v (bitsFrom m pos' (size - pos')) := by
  intro fuel
  induction fuel with
  | zero =>
    intro i value pos _ hp
    exact ⟨some (value, pos), rfl, Nat.le_refl _, hp, rfl⟩
  | succ f ih =>
    intro i value pos hv hp
    have e32 : (4294967296 : Nat) = 2 ^ 32 := rfl
    have epow : 2 ^ i * 2 = 2 ^ (i + 1) := by rw [Nat.pow_succ]
    by_cases hc : value + 2 ^ i < mx ∧ 2 ^ i < 2 ^ 32
    · have hc' : value + 2 ^ i < mx ∧ 2 ^ i < 4294967296 := by rw [e32]; exact hc
      unfold rIntLoop Utcp.rIntLoop
      rw [if_pos hc']
      simp only [if_pos hc]
      by_cases hend : pos ≥ size
      · rw [if_pos hend, Nat.sub_eq_zero_of_le hend]
        exact ⟨none, rfl, by simp [bitsFrom]⟩
      · have hlt : pos < size := Nat.lt_of_not_le hend
        rw [if_neg hend, testAt_spec _ _ (Nat.lt_of_lt_of_le hlt hs)]
        -- on a value below the mask `|` is `+`, as the bit-level model has it
        simp only [Option.bind_some, epow, or_two_pow_of_lt _ _ hv]
        rw [bitsFrom_split m pos size 1 hlt]
        simp only [bitsFrom, List.cons_append, List.nil_append]
        have hv' : (if bit m pos = true then value + 2 ^ i else value) < 2 ^ (i + 1) := by
          rw [Nat.pow_succ, Nat.mul_two]
          split
          · exact Nat.add_lt_add_right hv _
          · exact Nat.lt_of_lt_of_le hv (Nat.le_add_right _ _)
        obtain ⟨r, hr, hmatch⟩ := ih (i + 1) _ (pos + 1) hv' hlt
        refine ⟨r, hr, ?_⟩
        cases r with
        | none => exact hmatch
        | some p =>
          obtain ⟨v, pos'⟩ := p
          exact ⟨Nat.le_trans (Nat.le_succ pos) hmatch.1, hmatch.2⟩
    · have hc' : ¬ (value + 2 ^ i < mx ∧ 2 ^ i < 4294967296) := by rw [e32]; exact hc
      exact ⟨some (value, pos), by rw [rIntLoop, if_neg hc'], Nat.le_refl _, hp, Utcp.rIntLoop_stop hc _⟩

/-- `bitbuf_read_int` is the bit-level `readInt` on the bits that are left: same value, same number of bits consumed, and a failed read (it ran into
the end) leaves the cursor where it was; the array is only touched below `size` -/
theorem readInt_refines (b : Buf) (hb : RB b) (mx : Nat) :
    ∃ ok v b', readInt b mx = some (ok, v, b') ∧ RB b' ∧ b'.mem = b.mem ∧ b'.size = b.size ∧
      Utcp.readInt mx (rest b) = (if ok then .ok v (rest b') else .fail (rest b')) ∧ (ok = false → b' = b) := by
  obtain ⟨r, hr, hmatch⟩ := rIntLoop_spec b.mem b.size mx (rest b) hb.size 33 0 0 b.num (by simp) hb.num
  have e1 : (2 : Nat) ^ 0 = 1 := rfl
  rw [e1] at hr hmatch
  unfold readInt
  rw [hr]
  simp only [Option.bind_some]
  cases r with
  | none =>
    refine ⟨false, 0, b, rfl, hb, rfl, rfl, ?_, by simp⟩
    simp only at hmatch
    unfold Utcp.readInt
    simp only [Bool.false_eq_true, if_false]
    exact hmatch
  | some p =>
    obtain ⟨v, pos'⟩ := p
    simp only at hmatch
    refine ⟨true, v, { b with num := pos' }, rfl, ⟨hb.bytes, hb.size, hmatch.2.1⟩, rfl, rfl, ?_, by simp⟩
    unfold Utcp.readInt
    simp only [if_true]
    exact hmatch.2.2

theorem and_128_eq_zero (x : Nat) : x &&& 128 = 0 ↔ x.testBit 7 = false := by
  rw [← Bool.not_eq_true, ← and_shl_one_ne x 7, Decidable.not_not]
  rfl

/-- the shifting loop of `bitbuf_read_init`, started with the highest set bit of `last` at position `j`, takes `7 - j` off the count -/
theorem initLoop_spec : ∀ (g fuel last cnt j : Nat), j + g = 7 → g ≤ fuel → last.testBit j = true →
    (∀ i, j < i → last.testBit i = false) → initLoop fuel last cnt = cnt - g := by
  intro g
  induction g with
  | zero =>
    intro fuel last cnt j hj _ hb _
    obtain rfl : j = 7 := hj
    have h128 : last &&& 128 ≠ 0 := fun h => by rw [and_128_eq_zero, hb] at h; cases h
    cases fuel with
    | zero => rfl
    | succ f => rw [initLoop, if_neg h128]; rfl
  | succ g ih =>
    intro fuel last cnt j hj hf hb hz
    have hj7 : j < 7 := hj ▸ Nat.lt_add_of_pos_right (Nat.succ_pos g)
    cases fuel with
    | zero => exact absurd hf (Nat.not_succ_le_zero g)
    | succ f =>
      rw [initLoop, if_pos ((and_128_eq_zero last).2 (hz 7 hj7))]
      have hlt : last * 2 < 256 := by
        have : last < 2 ^ 7 := Nat.lt_pow_two_of_testBit _ fun i hi => hz i (Nat.lt_of_lt_of_le hj7 hi)
        omega
      rw [Nat.mod_eq_of_lt hlt]
      have htb : ∀ i, (last * 2).testBit i = (decide (1 ≤ i) && last.testBit (i - 1)) := fun i => by
        rw [show last * 2 = last <<< 1 by rw [Nat.shiftLeft_eq], Nat.testBit_shiftLeft]
      rw [ih f (last * 2) (cnt - 1) (j + 1) (by omega) (Nat.le_of_succ_le_succ hf) (by rw [htb]; simp [hb])
        (fun i hi => by rw [htb]; simp; intro _; exact hz (i - 1) (Nat.lt_sub_of_add_lt hi)), Nat.sub_sub, Nat.add_comm 1 g]

theorem initLoop_le : ∀ fuel last cnt, initLoop fuel last cnt ≤ cnt := by
  intro fuel
  induction fuel with
  | zero => intro last cnt; exact Nat.le_refl _
  | succ f ih =>
    intro last cnt
    unfold initLoop
    split
    · exact Nat.le_trans (ih _ _) (Nat.sub_le cnt 1)
    · exact Nat.le_refl _

/-- `bitbuf_read_init` looks at the last byte and nowhere else -/
theorem readInit_eq (data : Mem) : readInit data =
    if data.length = 0 ∨ data.getD (data.length - 1) 0 = 0 then some (false, ⟨data, 0, 0⟩)
    else some (true, ⟨data, initLoop 8 (data.getD (data.length - 1) 0) (data.length * 8 - 1), 0⟩) := by
  unfold readInit
  by_cases h : data.length = 0
  · rw [if_pos h, if_pos (Or.inl h)]
  · rw [if_neg h, rd_of_lt _ _ (Nat.sub_lt (Nat.pos_of_ne_zero h) (by decide))]
    simp only [Option.bind_some]
    by_cases h0 : data.getD (data.length - 1) 0 = 0
    · rw [if_pos h0, if_pos (Or.inr h0)]
    · rw [if_neg h0, if_neg (fun hh => hh.elim h h0)]

/-- `bitbuf_read_init`: on a datagram whose last byte holds the terminator (the highest set bit of the array, at bit `n`) the read buffer covers exactly
the `n` bits below it -/
theorem readInit_spec (data : Mem) (hd : BytesOK data) (n : Nat) (hn : n / 8 + 1 = data.length) (hterm : bit data n = true)
    (hz : ∀ k, n < k → bit data k = false) : readInit data = some (true, ⟨data, n, 0⟩) := by
  obtain ⟨q, r, hr, rfl⟩ := exists_byte_offset n
  rw [div8 q r hr] at hn
  rw [bit_at _ _ _ hr] at hterm
  have hne : data.getD q 0 ≠ 0 := by
    intro h; rw [h] at hterm; simp at hterm
  rw [readInit_eq, ← hn, Nat.add_sub_cancel, if_neg (fun h => h.elim (Nat.succ_ne_zero q) hne),
    initLoop_spec (7 - r) 8 (data.getD q 0) ((q + 1) * 8 - 1) r (Nat.add_sub_cancel' (Nat.le_of_lt_succ hr)) (Nat.le_trans (Nat.sub_le 7 r) (by decide)) hterm
    (fun i hi => by
      by_cases h8 : i < 8
      · rw [← bit_at _ _ _ h8]
        exact hz _ (Nat.add_lt_add_left hi _)
      · exact testBit_byte_hi _ _ (getD_lt_256 data hd _) (Nat.le_of_not_lt h8))]
  congr 3
  omega

theorem readInit_refuses (data : Mem) (h : data.length = 0 ∨ data.getD (data.length - 1) 0 = 0) : ∃ b, readInit data = some (false, b) :=
  ⟨_, by rw [readInit_eq, if_pos h]⟩

theorem readInit_num (d : Mem) (ok : Bool) (rb : Buf) (h : readInit d = some (ok, rb)) : rb.num = 0 := by
  rw [readInit_eq] at h
  split at h <;> cases h <;> rfl

theorem testBit_maskN (n j : Nat) : (((1 <<< n) - 1) % 256).testBit j = (decide (j < 8) && decide (j < n)) := by
  rw [testBit_mod256, testBit_mask0]

theorem testBit_maskLo_shr (a u j : Nat) (ha : a < 256) (hj : j < 8) :
    ((a >>> u) &&& (((1 <<< (8 - u)) - 1) % 256)).testBit j = (a >>> u).testBit j := by
  rw [Nat.testBit_and, testBit_maskN, Nat.testBit_shiftRight]
  by_cases h : j < 8 - u
  · simp [hj, h]
  · rw [testBit_byte_hi a (u + j) ha (by omega)]; simp

theorem testBit_maskHi_shl (b u j : Nat) (hj : j < 8) :
    ((b &&& (((1 <<< u) - 1) % 256)) <<< (8 - u)).testBit j = (b <<< (8 - u)).testBit j := by
  rw [Nat.testBit_shiftLeft, Nat.testBit_shiftLeft, Nat.testBit_and, testBit_maskN]
  by_cases h : j ≥ 8 - u
  · have h1 : j - (8 - u) < 8 := by omega
    have h2 : j - (8 - u) < u := by omega
    simp [h1, h2]
  · simp [h]

/-- the byte `bitbuf_read_int_packed` assembles from one or two array bytes is the next eight bits of the buffer: its masks are redundant
on bytes, what is left is the two-byte window -/
theorem packedByte (m : Mem) (hm : BytesOK m) (i u : Nat) (hu : u < 8) (hfit : 8 * i + u + 8 ≤ 8 * m.length) :
    ∃ s0 s1, rd m i = some s0 ∧ (if u ≠ 0 then rd m (i + 1) else rd m i) = some s1 ∧
      (((s0 >>> u) &&& (((1 <<< (8 - u)) - 1) % 256)) ||| ((s1 &&& (((1 <<< u) - 1) % 256)) <<< ((8 - u) % 8))) % 256
        = bitsToNat (bitsFrom m (8 * i + u) 8) := by
  obtain ⟨hi, hi1⟩ := window_bytes m.length i u hfit
  have r0 : rd m i = some (m.getD i 0) := rd_of_lt _ _ hi
  have ha := getD_lt_256 m hm i
  by_cases h0 : u = 0
  · subst h0
    refine ⟨_, _, r0, (if_neg (fun h => h rfl)).trans r0, mod256_eq_bits _ _ _ fun j hj => ?_⟩
    rw [Nat.testBit_or, testBit_maskLo_shr _ 0 j ha hj, Nat.add_zero, bit_at m i j hj]
    simp
  · have hl : (8 - u) % 8 = 8 - u := Nat.mod_eq_of_lt (Nat.sub_lt (by decide) (Nat.pos_of_ne_zero h0))
    refine ⟨_, _, r0, (if_pos h0).trans (rd_of_lt m (i + 1) (hi1 h0)), mod256_eq_bits _ _ _ fun j hj => ?_⟩
    rw [hl, Nat.testBit_or, testBit_maskLo_shr _ u j ha hj, testBit_maskHi_shl _ u j hj, ← Nat.testBit_or, testBit_window m hm i u j hu hj,
      Nat.add_assoc]

theorem packedAcc (byte shift value : Nat) (hv : value < 2 ^ shift) :
    (((byte >>> 1) <<< shift) ||| value) % 4294967296 = (value + (byte / 2) * 2 ^ shift) % 2 ^ 32 := by
  have e32 : (4294967296 : Nat) = 2 ^ 32 := rfl
  rw [e32, Nat.shiftRight_eq_div_pow, Nat.shiftLeft_eq, Nat.pow_one, pack_or _ _ _ shift rfl hv, Nat.add_comm]

theorem and_one_eq_zero_iff (x : Nat) : x &&& 1 = 0 ↔ ¬ x % 2 = 1 := by
  rw [Nat.and_one_is_mod]; omega

theorem packedAcc_lt (byte shift value : Nat) (hb : byte < 256) (hv : value < 2 ^ shift) :
    (value + byte / 2 * 2 ^ shift) % 2 ^ 32 < 2 ^ (shift + 7) := by
  apply Nat.lt_of_le_of_lt (Nat.mod_le _ _)
  have h127 : byte / 2 * 2 ^ shift ≤ 127 * 2 ^ shift := Nat.mul_le_mul_right _ (by omega)
  rw [Nat.pow_add, show (2 : Nat) ^ 7 = 128 from rfl]
  omega

theorem rPackedLoop_spec (m : Mem) (hm : BytesOK m) (size : Nat) (hs : size ≤ 8 * m.length) (u : Nat) (hu : u < 8) :
    ∀ (fuel i shift value : Nat), value < 2 ^ shift → 8 * i + u ≤ size →
      ∃ ok v num', rPackedLoop fuel m size (8 * i + u) i u shift value = some (ok, v, num') ∧ 8 * i + u ≤ num' ∧ num' ≤ size ∧
        Utcp.rPackedLoop fuel shift value (bitsFrom m (8 * i + u) (size - (8 * i + u))) =
          (if ok then .ok v (bitsFrom m num' (size - num')) else .fail (bitsFrom m num' (size - num'))) := by
  intro fuel
  induction fuel with
  | zero =>
    intro i shift value _ hn
    exact ⟨true, value, _, by simp [rPackedLoop], Nat.le_refl _, hn, by simp [Utcp.rPackedLoop]⟩
  | succ f ih =>
    intro i shift value hv hn
    generalize hnum : 8 * i + u = num at hn ⊢
    unfold rPackedLoop Utcp.rPackedLoop
    by_cases hend : num + 8 > size
    · rw [if_pos hend]
      refine ⟨false, value, num, rfl, Nat.le_refl _, hn, ?_⟩
      simp only [Utcp.readBits_fail 8 (bitsFrom m num (size - num)) (by rw [bitsFrom_length]; exact Nat.sub_lt_left_of_lt_add hn hend), Bool.false_eq_true, if_false]
    · rw [if_neg hend]
      have hfit : num + 8 ≤ size := Nat.le_of_not_lt hend
      obtain ⟨s0, s1, h0, h1, hbyte⟩ := packedByte m hm i u hu (hnum ▸ Nat.le_trans hfit hs)
      rw [hnum] at hbyte
      simp only [h1]
      simp only [h0, Option.bind_some, hbyte]
      have hb256 : bitsToNat (bitsFrom m num 8) < 256 := by
        have := bitsToNat_lt (bitsFrom m num 8)
        simpa using this
      rw [bitsFrom_split m num size 8 hfit, Utcp.readBits_append' 8 _ _ (bitsFrom_length ..)]
      simp only
      generalize bitsToNat (bitsFrom m num 8) = byte at hb256 ⊢
      rw [packedAcc byte shift value hv]
      have hcond := and_one_eq_zero_iff byte
      by_cases hb : byte % 2 = 1
      · have hc : ¬ (byte &&& 1 = 0) := fun h => (hcond.mp h) hb
        rw [if_neg hc, if_pos hb]
        have hv' := packedAcc_lt byte shift value hb256 hv
        have e : num + 8 = 8 * (i + 1) + u := by rw [← hnum, Nat.mul_succ, Nat.add_right_comm]
        rw [e] at hfit ⊢
        obtain ⟨ok, v, num', hr, hle, hle2, hS⟩ := ih (i + 1) (shift + 7) ((value + byte / 2 * 2 ^ shift) % 2 ^ 32) hv' hfit
        exact ⟨ok, v, num', hr, Nat.le_trans (e ▸ Nat.le_add_right num 8) hle, hle2, hS⟩
      · have hc : byte &&& 1 = 0 := hcond.mpr hb
        rw [if_pos hc, if_neg hb]
        exact ⟨true, _, num + 8, rfl, Nat.le_add_right num 8, hfit, by simp⟩

/-- `bitbuf_read_int_packed` is the bit-level `readIntPacked` on the bits that are left: same value, same bits consumed; when it runs into the end the
groups already consumed stay consumed, and the cursor is still inside the buffer; the array is only touched below `size` -/
theorem readIntPacked_refines (b : Buf) (hb : RB b) :
    ∃ ok v b', readIntPacked b = some (ok, v, b') ∧ RB b' ∧ b'.mem = b.mem ∧ b'.size = b.size ∧
      Utcp.readIntPacked (rest b) = (if ok then .ok v (rest b') else .fail (rest b')) := by
  have hsp := rPackedLoop_spec b.mem hb.bytes b.size hb.size (b.num % 8) (Nat.mod_lt _ (by decide)) 5 (b.num / 8) 0 0 (by simp)
  rw [Nat.div_add_mod] at hsp
  obtain ⟨ok, v, num', hr, hle, hle2, hS⟩ := hsp hb.num
  unfold readIntPacked
  rw [hr]
  simp only [Option.bind_some]
  refine ⟨ok, _, _, rfl, ⟨hb.bytes, hb.size, hle2⟩, rfl, rfl, ?_⟩
  unfold Utcp.readIntPacked rest
  rw [hS]
  cases ok <;> simp

theorem le32_eq (o : Mem) (ho : BytesOK o) :
    o.getD 0 0 + 256 * o.getD 1 0 + 65536 * o.getD 2 0 + 16777216 * o.getD 3 0 = bitsToNat (bitsFrom o 0 32) := by
  have b0 : bitsToNat (bitsFrom o 0 8) = o.getD 0 0 := bitsToNat_byte o ho 0
  have b1 : bitsToNat (bitsFrom o (0 + 8) 8) = o.getD 1 0 := bitsToNat_byte o ho 1
  have b2 : bitsToNat (bitsFrom o (0 + 8 + 8) 8) = o.getD 2 0 := bitsToNat_byte o ho 2
  have b3 : bitsToNat (bitsFrom o (0 + 8 + 8 + 8) 8) = o.getD 3 0 := bitsToNat_byte o ho 3
  rw [show (32 : Nat) = 8 + (8 + (8 + 8)) from rfl, bitsFrom_append, bitsFrom_append, bitsFrom_append, bitsToNat_append, bitsToNat_append,
    bitsToNat_append, b0, b1, b2, b3]
  simp only [bitsFrom_length]
  omega

/-- `bitbuf_read_int_byte_order` (little-endian host) is the bit-level `readU32` on the bits that are left -/
theorem readU32_refines (b : Buf) (hb : RB b) :
    ∃ ok v b', readU32 b = some (ok, v, b') ∧ RB b' ∧ b'.mem = b.mem ∧ b'.size = b.size ∧
      Utcp.readU32 (rest b) = (if ok then .ok v (rest b') else .fail (rest b')) := by
  obtain ⟨ok, out', b', h, hrb', hm, hsz, hl, hok, hS, _, _⟩ := readBits_refines b hb [0, 0, 0, 0] (by intro x hx; simp at hx; omega) 32 (by simp)
  unfold readU32
  rw [h]
  simp only [Option.bind_some]
  refine ⟨ok, _, b', rfl, hrb', hm, hsz, ?_⟩
  unfold Utcp.readU32
  rw [hS]
  cases ok with
  | false => simp
  | true =>
    simp only [if_true]
    rw [le32_eq out' hok]

end Utcp.BB
