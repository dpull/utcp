import Utcp.Handshake
import Utcp.Props.C08
/-!
# C06 — the listener accepts only a fresh cookie it issued to that very address

The MAC is a parameter (`mac : secret → message → cookie`).  "Cannot be forged without the secret" is the
usual symbolic assumption about `mac` and is *not* provable; what is proved is the decision logic around it:
an acceptance happens iff the datagram carries, for exactly the presenting address, the MAC under one of the
listener's two current secrets of (timestamp, address), inside the lifetime window, with a secret id that is
consistent with the last rotation.
-/
namespace Utcp.Props.C06
open Utcp

/-- the message that is authenticated: timestamp, address length, address bytes (`GenerateCookie`) -/
def cookieInput (ts : UInt64) (addr : String) : List UInt8 := le64 ts.toNat ++ le64 addr.toUTF8.toList.length ++ addr.toUTF8.toList

theorem cookie_eq {T} (mac : Mac) (l : LState T) (addr : String) (sid : Bool) (ts : UInt64) :
    l.cookie mac addr sid ts = mac (if sid then l.secret1 else l.secret0) (cookieInput ts addr) := rfl

/-- the three tests a response must pass -/
structure Passes {T} (tm : TimeOps T) (mac : Mac) (e : Env) (l : LState T) (addr : String) (hs : HsData) : Prop where
  /-- not in the future, and younger than the maximum cookie lifetime -/
  fresh : LState.validLife tm e hs = true
  /-- issued under the current secret after the last rotation, or under the previous secret before it -/
  slot : l.validSecret tm hs = true
  /-- the cookie is the MAC, under that secret, of this timestamp and *this* address -/
  mac_ok : hs.cookie = mac (if hs.secretId then l.secret1 else l.secret0) (cookieInput hs.ts addr)

theorem decision_zero_iff {T} (tm : TimeOps T) (mac : Mac) (e : Env) (l : LState T) (addr : String) (hs : HsData) :
    l.decision tm mac e addr hs = 0 ↔ Passes tm mac e l addr hs := by
  unfold LState.decision
  have hck : l.cookieOk mac addr hs = true ↔ hs.cookie = mac (if hs.secretId then l.secret1 else l.secret0) (cookieInput hs.ts addr) := by
    unfold LState.cookieOk; rw [cookie_eq]
    constructor
    · intro h; exact (beq_iff_eq.mp h).symm
    · intro h; exact beq_iff_eq.mpr h.symm
  constructor
  · intro h
    cases h1 : LState.validLife tm e hs <;> cases h2 : l.validSecret tm hs <;> cases h3 : l.cookieOk mac addr hs <;> simp [h1, h2, h3] at h
    exact ⟨h1, h2, hck.mp h3⟩
  · intro ⟨h1, h2, h3⟩
    simp [h1, h2, hck.mpr h3]

/-- every failure code names the test that failed -/
theorem decision_codes {T} (tm : TimeOps T) (mac : Mac) (e : Env) (l : LState T) (addr : String) (hs : HsData) :
    (l.decision tm mac e addr hs = -6 ↔ (LState.validLife tm e hs && l.validSecret tm hs) = false) ∧
    (l.decision tm mac e addr hs = -7 ↔ ((LState.validLife tm e hs && l.validSecret tm hs) = true ∧ l.cookieOk mac addr hs = false)) := by
  unfold LState.decision
  cases h1 : (LState.validLife tm e hs && l.validSecret tm hs) <;> cases h3 : l.cookieOk mac addr hs <;> simp

/-- **accept iff** (non-empty address): the listener reports an acceptance exactly when the datagram is a
well-framed, size-valid handshake packet that is not an initial packet and passes the three tests -/
theorem accept_iff {T} (tm : TimeOps T) (mac : Mac) (e : Env) (rng : Rng) (l : LState T) (addr : String) (bytes : List UInt8)
    (hne : addr.isEmpty = false) :
    (l.react tm mac e rng addr bytes).acc.isSome = true ↔
      ∃ bits s client rest hs, readInit bytes = some bits ∧ readOutgoingHeader e bits = .ok (s, client, true) rest ∧ parseHandshake rest = some hs
        ∧ (hs.ptype == ptInitial && tm.isZero (tm.ofBits hs.ts)) = false ∧ Passes tm mac e l addr hs := by
  constructor
  · intro h
    rcases react_cases tm mac e rng l addr bytes with ⟨bits, s, client, rest, hs, h1, h2, h3, hr⟩ | ⟨_, _, hr⟩ | ⟨_, _, _, hr⟩ <;> rw [hr] at h
    · obtain ⟨hi, hd⟩ := onHandshake_acc_isSome tm mac e rng l addr client hs hne h
      exact ⟨bits, s, client, rest, hs, h1, h2, h3, hi, (decision_zero_iff tm mac e l addr hs).mp hd⟩
    · cases h
    · cases h
  · intro ⟨bits, s, client, rest, hs, h1, h2, h3, h4, h5⟩
    rw [react_of_wire tm mac e rng l addr bytes bits rest s client hs h1 h2 h3,
      onHandshake_accepted tm mac e rng l addr client hs h4 ((decision_zero_iff tm mac e l addr hs).mpr h5)]
    rfl

theorem le64_length (n : Nat) : (le64 n).length = 8 := by simp [le64]

/-- the authenticated message determines the bytes of timestamp and address: a cookie issued to one address is the MAC of a
*different* message for every other address (so presenting it from elsewhere fails unless `mac` collides) -/
theorem cookieInput_injective (ts ts' : UInt64) (a a' : String) (h : cookieInput ts a = cookieInput ts' a') :
    le64 ts.toNat = le64 ts'.toNat ∧ a.toUTF8.toList = a'.toUTF8.toList := by
  unfold cookieInput at h
  rw [List.append_assoc, List.append_assoc] at h
  have h1 := List.append_inj h (by simp [le64_length])
  have h2 := List.append_inj h1.2 (by simp [le64_length])
  exact ⟨h1.1, h2.2⟩

/-- an acceptance (not a restart) hands the application the sequence numbers encoded in the *accepted datagram's* cookie — nothing
the listener remembers enters, so earlier datagrams (accepted or not) cannot influence them -/
theorem accepted_sequences {T} (tm : TimeOps T) (mac : Mac) (e : Env) (rng : Rng) (l : LState T) (addr : String) (client : Nat) (hs : HsData)
    (a : Accepted) (h : (l.onHandshake tm mac e rng addr client hs).acc = some a) (hne : addr.isEmpty = false) (hr : hs.restart = false) :
    a.serverSeq = seqFromCookie hs.cookie 0 ∧ a.clientSeq = seqFromCookie hs.cookie 1 ∧ a.cookie = hs.cookie ∧ a.addr = addr := by
  obtain ⟨hi, hd⟩ := onHandshake_acc_isSome tm mac e rng l addr client hs hne (by rw [h]; rfl)
  rw [onHandshake_accepted tm mac e rng l addr client hs hi hd, hr] at h
  cases h
  exact ⟨rfl, rfl, rfl, rfl⟩

/-- non-accepting datagrams have no effect at all (C08), in particular on any later acceptance -/
theorem no_effect {T} (tm : TimeOps T) (mac : Mac) (l : LState T) (ds : List C08.Input) (h : C08.NonCompleting tm mac l ds) (i : C08.Input) :
    (C08.run tm mac l ds).react tm mac i.e i.rng i.addr i.bytes = l.react tm mac i.e i.rng i.addr i.bytes :=
  C08.history_free_reply tm mac l ds h i

/-- the address capacity obligation of `GenerateCookie` (defect D6): timestamp + length + a 63-character address
and its terminator fit the stack buffer, with the extents read from the current source -/
theorem cookie_buffer_fits : Gen.SIZEOF_DOUBLE + Gen.SIZEOF_SIZE_T + Gen.ADDRSTR_PORT_SIZE ≤ Gen.EXTENT_CookieData
    ∧ 64 + Gen.EXTENT_CookieData ≤ Gen.EXTENT_IKeyPad_Data := by decide

end Utcp.Props.C06
