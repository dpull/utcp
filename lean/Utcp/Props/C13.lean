import Utcp.Gen.PureFns
import Utcp.Gen.Consts
/-!
# C13 — wrap-around sequence arithmetic is a consistent circular order

All statements are about the definitions that `tools/ctrans.py` regenerates from
`utcp_sequence_number.h` / `utcp_packet.c` on every run (`Utcp.Gen.*`), for *all* integers in the stated
ranges: no enumeration, no bound on the channel reference.
-/
namespace Utcp.Props.C13
open Utcp.Gen

/-- a 14-bit sequence number, as every caller passes it (`seq_num_inc` returns one: `inc_seq14`) -/
def Seq14 (a : Int) : Prop := 0 ≤ a ∧ a < 16384
/-- an arbitrary `uint16_t` operand -/
def U16 (a : Int) : Prop := 0 ≤ a ∧ a < 65536

/-- the constants the generated code was specialised with are the ones extracted from the headers -/
theorem consts_ok : SeqNumberCount = 16384 ∧ SeqNumberHalf = 8192 ∧ SeqNumberMask = 16383 ∧ UTCP_MAX_CHSEQUENCE = 1024 := by decide

/-- `seq_num_diff` (shift left 18 in a 32-bit register, arithmetic shift right 18) is the centred residue of `a - b` modulo `2^14`:
the representative in `[-8192, 8192)`; no range assumption on the operands -/
theorem seq_num_diff_eq (a b : Int) : seq_num_diff a b = (a - b + 8192) % 16384 - 8192 := by
  -- `2^32 = 2^18 * 2^14` and `2^31 = 2^18 * 2^13`: the factor `2^18` comes out of both `%` and cancels against the `/`
  have e : (4294967296 : Int) = 262144 * 16384 := rfl
  have e2 : (2147483648 : Int) = 262144 * 8192 := rfl
  rw [seq_num_diff, Int.mul_emod, Int.emod_emod, ← Int.mul_emod, Int.mul_comm (a - b), e, Int.mul_emod_mul_of_pos _ _ (by decide), e2,
    ← Int.mul_add, Int.mul_emod_mul_of_pos _ _ (by decide), ← Int.mul_sub, Int.mul_ediv_cancel_left _ (by decide), Int.emod_add_emod]

theorem gt_iff (a b : Int) : seq_num_greater_than a b = true ↔ a ≠ b ∧ (a - b) % 16384 < 8192 := by
  simp [seq_num_greater_than]

theorem ge_iff (a b : Int) : seq_num_greater_equal a b = true ↔ (a - b) % 16384 < 8192 := by
  simp [seq_num_greater_equal]

/-! `diff`, `≥`, `>` and `inc` see their operands only modulo `2^14`, whatever the operands are.  So what is said below of `diff`, `≥` and `inc` holds
of all integers (the theorems with a range hypothesis are instances of the ones without); only `gt_antisymm` and `gt_iff_diff_pos`
need the range, because `>` tests `a ≠ b` on the operands as given. -/

theorem diff_mod (a b : Int) : seq_num_diff (a % 16384) (b % 16384) = seq_num_diff a b := by
  rw [seq_num_diff_eq, seq_num_diff_eq, Int.add_emod_eq_add_emod_right 8192 (Int.sub_emod a b 16384).symm]

theorem diff_mod_left (a b : Int) : seq_num_diff (a % 16384) b = seq_num_diff a b := by
  rw [seq_num_diff_eq, seq_num_diff_eq, Int.add_emod_eq_add_emod_right 8192 (Int.emod_sub_emod a 16384 b)]

theorem ge_mod (a b : Int) : seq_num_greater_equal (a % 16384) (b % 16384) = seq_num_greater_equal a b := by
  rw [seq_num_greater_equal, seq_num_greater_equal, ← Int.sub_emod]

theorem gt_mod_iff (a b : Int) :
    seq_num_greater_than (a % 16384) (b % 16384) = true ↔ (a - b) % 16384 ≠ 0 ∧ (a - b) % 16384 < 8192 := by
  rw [gt_iff, ← Int.sub_emod, Ne, Int.emod_eq_emod_iff_emod_sub_eq_zero]

theorem inc_eq (a i : Int) : seq_num_inc a i = (a + i) % 16384 := by
  rw [seq_num_inc, seq_num_init, Int.emod_emod_of_dvd (a + i) (show (16384 : Int) ∣ 65536 by decide),
    Int.emod_eq_of_lt (Int.emod_nonneg _ (by decide)) (Int.lt_trans (Int.emod_lt_of_pos _ (by decide)) (by decide))]

theorem gt_irrefl (a : Int) : seq_num_greater_than a a = false := by
  simp [seq_num_greater_than]

theorem ge_refl (a : Int) : seq_num_greater_equal a a = true := by
  simp [seq_num_greater_equal]

theorem gt_antisymm (a b : Int) (ha : Seq14 a) (hb : Seq14 b) :
    seq_num_greater_than a b = true → seq_num_greater_than b a = false := by
  unfold Seq14 at *; rw [← Bool.not_eq_true, gt_iff, gt_iff]; omega

theorem gt_iff_diff_pos (a b : Int) (ha : Seq14 a) (hb : Seq14 b) :
    seq_num_greater_than a b = true ↔ seq_num_diff a b > 0 := by
  unfold Seq14 at *; rw [gt_iff, seq_num_diff_eq]; omega

theorem ge_iff_diff (a b : Int) : seq_num_greater_equal a b = true ↔ seq_num_diff a b ≥ 0 := by
  rw [ge_iff, seq_num_diff_eq]; omega

theorem ge_iff_diff_nonneg (a b : Int) (ha : Seq14 a) (hb : Seq14 b) :
    seq_num_greater_equal a b = true ↔ seq_num_diff a b ≥ 0 := ge_iff_diff a b

theorem diff_range (a b : Int) : -8192 ≤ seq_num_diff a b ∧ seq_num_diff a b < 8192 ∧ (seq_num_diff a b - (a - b)) % 16384 = 0 := by
  rw [seq_num_diff_eq]; omega

theorem diff_spec (a b : Int) (ha : U16 a) (hb : U16 b) :
    -8192 ≤ seq_num_diff a b ∧ seq_num_diff a b < 8192 ∧ (seq_num_diff a b - (a - b)) % 16384 = 0 := diff_range a b

theorem diff_neg (a b : Int) (h : seq_num_diff a b ≠ -8192) : seq_num_diff a b = - seq_num_diff b a := by
  simp only [seq_num_diff_eq] at h ⊢; omega

theorem diff_antisymm (a b : Int) (ha : U16 a) (hb : U16 b) (h : seq_num_diff a b ≠ -8192) :
    seq_num_diff a b = - seq_num_diff b a := diff_neg a b h

/-- at the half-way point both differences are `-8192` -/
theorem diff_half_swap (a b : Int) (h : seq_num_diff a b = -8192) : seq_num_diff b a = -8192 := by
  simp only [seq_num_diff_eq] at h ⊢; omega

theorem diff_half (a b : Int) (ha : U16 a) (hb : U16 b) (h : seq_num_diff a b = -8192) : seq_num_diff b a = -8192 :=
  diff_half_swap a b h

theorem mod_seq14 (x : Int) : Seq14 (x % 16384) := ⟨Int.emod_nonneg _ (by decide), Int.emod_lt_of_pos _ (by decide)⟩

theorem inc_seq14 (a k : Int) : Seq14 (seq_num_inc a k) := by
  rw [inc_eq]; exact mod_seq14 _

theorem inc_masked (a k : Int) (ha : U16 a) (hk : U16 k) : Seq14 (seq_num_inc a k) := inc_seq14 a k

/-- adding `k` then differencing returns `k`, for every `|k|` below half the space (negative `k` is passed
as the 16-bit two's complement value, as C does) -/
theorem diff_inc_eq (a k : Int) (hk : -8192 ≤ k ∧ k < 8192) : seq_num_diff (seq_num_inc a (k % 65536)) a = k := by
  rw [inc_eq, diff_mod_left, seq_num_diff_eq]; omega

theorem diff_inc (a k : Int) (ha : Seq14 a) (hk : -8192 ≤ k ∧ k < 8192) :
    seq_num_diff (seq_num_inc a (k % 65536)) a = k := diff_inc_eq a k hk

theorem diff_congr (a b : Int) (ha : U16 a) (hb : U16 b) :
    seq_num_diff a b = seq_num_diff (a % 16384) (b % 16384) := (diff_mod a b).symm

theorem ge_congr (a b : Int) (ha : U16 a) (hb : U16 b) :
    seq_num_greater_equal a b = seq_num_greater_equal (a % 16384) (b % 16384) := (ge_mod a b).symm

/-- exact behaviour of `>` on unmasked operands: it differs from the masked comparison precisely when
the operands are unequal but congruent modulo 2^14 -/
theorem gt_eq_mod (a b : Int) :
    seq_num_greater_than a b = (seq_num_greater_than (a % 16384) (b % 16384) || (a != b && a % 16384 == b % 16384)) := by
  rw [Bool.eq_iff_iff, Bool.or_eq_true, gt_iff, gt_mod_iff, Bool.and_eq_true, bne_iff_ne, beq_iff_eq, Int.emod_eq_emod_iff_emod_sub_eq_zero]
  omega

theorem gt_unmasked (a b : Int) (ha : U16 a) (hb : U16 b) :
    seq_num_greater_than a b = (seq_num_greater_than (a % 16384) (b % 16384) || (a != b && a % 16384 == b % 16384)) := gt_eq_mod a b

/-- total on any window narrower than half the space: of two distinct numbers not exactly half the space apart, one is `>` the other
(not both: `gt_antisymm`) -/
theorem gt_total (a b : Int) (ha : Seq14 a) (hb : Seq14 b) (hne : a ≠ b) (hhalf : (a - b) % 16384 ≠ 8192) :
    seq_num_greater_than a b = true ∨ seq_num_greater_than b a = true := by
  rw [gt_iff, gt_iff]; omega

/-- agreement with unbounded ids: if two absolute packet ids are less than half the space apart, the
circular comparison of their 14-bit residues is the comparison of the ids -/
theorem gt_abs (x y : Int) (h : -8192 < x - y ∧ x - y < 8192) :
    seq_num_greater_than (x % 16384) (y % 16384) = decide (x > y) := by
  rw [Bool.eq_iff_iff, gt_mod_iff, decide_eq_true_eq]; omega

theorem diff_abs (x y : Int) (h : -8192 ≤ x - y ∧ x - y < 8192) :
    seq_num_diff (x % 16384) (y % 16384) = x - y := by
  rw [diff_mod, seq_num_diff_eq]; omega

/-! ## 10-bit channel sequences -/

/-- `MakeRelative(v, r, 1024)` is congruent to the wire value and lies in `[r-512, r+511]` … -/
theorem makeRelative_spec (v r : Int) :
    (MakeRelative_chseq v r - v) % 1024 = 0 ∧ r - 512 ≤ MakeRelative_chseq v r ∧ MakeRelative_chseq v r ≤ r + 511 := by
  simp only [MakeRelative_chseq, BestSignedDifference_chseq]
  omega

/-- … and it is the *only* such value (for every reference, without any bound) -/
theorem makeRelative_unique (v r x : Int) (hc : (x - v) % 1024 = 0) (hlo : r - 512 ≤ x) (hhi : x ≤ r + 511) :
    MakeRelative_chseq v r = x := by
  simp only [MakeRelative_chseq, BestSignedDifference_chseq]
  omega

/-- recovering an absolute channel sequence from its wire residue -/
theorem makeRelative_recovers (abs r : Int) (h : r - 512 ≤ abs ∧ abs ≤ r + 511) :
    MakeRelative_chseq (abs % 1024) r = abs :=
  makeRelative_unique _ r abs (by rw [Int.sub_emod, Int.emod_emod, Int.sub_self, Int.zero_emod]) h.1 h.2

/-! ## non-vacuity: concrete instances next to and across the wraps -/
example : seq_num_greater_than 3 16380 = true ∧ seq_num_diff 3 16380 = 7 ∧ seq_num_diff 16380 3 = -7 := by decide
example : seq_num_greater_than 65535 32767 = true ∧ seq_num_greater_than 32767 65535 = true := by decide  -- the unmasked oddity
example : seq_num_diff 8192 0 = -8192 ∧ seq_num_diff 0 8192 = -8192 := by decide
example : MakeRelative_chseq 2 1022 = 1026 ∧ MakeRelative_chseq 1020 2050 = 2044 ∧ MakeRelative_chseq 0 (2^30) = 2^30 := by decide
example : Seq14 16383 ∧ U16 65535 := by unfold Seq14 U16; omega

end Utcp.Props.C13
