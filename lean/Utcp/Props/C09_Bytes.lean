import Utcp.Lemmas.ByteReader
import Utcp.Bunch
/-!
# C09 / C11 at the level of the byte array: the bunch parser

`utcp_bunch_read` as the sequence of bit-buffer calls it makes (`lDecodeBunch`), over the byte-array model of `Utcp/ByteBuf.lean`, in which touching a byte
outside an array is a fault.  It refines the bit-level `decodeBunch` of `Utcp/Bunch.lean` (for which C11 proves the round trip and C09 totality): hence, for every
datagram image, every cursor and every content, the parser reads only bytes that hold valid bits and writes only into the bunch's data array.
-/
namespace Utcp.BB
open Utcp

def lReadCtl : LRd (Bool × Bool × Nat) :=
  lReadBit.bind fun ctl =>
  (if ctl then lReadBit else LRd.pure false).bind fun bOpen =>
  (if ctl then lReadBit else LRd.pure false).bind fun bClose =>
  (if bClose then lReadInt closeReasonMax else LRd.pure 0).bind fun reason =>
  LRd.pure (bOpen, bClose, reason)

def lReadSeq (reliable : Bool) : LRd Nat := if reliable then lReadInt maxChSequence else LRd.pure 0
def lReadPartialFlags (partial_ : Bool) : LRd (Bool × Bool) :=
  if partial_ then (lReadBit.bind fun a => lReadBit.bind fun b => LRd.pure (a, b)) else LRd.pure (false, false)
def lReadName (has : Bool) : LRd Nat :=
  if has then (lReadBit.bind fun hard => if !hard then LRd.failHere else lReadIntPacked) else LRd.pure 0

/-- `utcp_bunch_read(bunch, bitbuf)`: the calls of the C function in their order; `data` = the data array of the bunch node, whatever it holds -/
def lDecodeBunch (data : Mem) : LRd Bunch :=
  lReadCtl.bind fun (bOpen, bClose, reason) =>
  lReadBit.bind fun paused =>
  lReadBit.bind fun reliable =>
  lReadIntPacked.bind fun ch =>
  lReadBit.bind fun exports =>
  lReadBit.bind fun guids =>
  lReadBit.bind fun partial_ =>
  (lReadSeq reliable).bind fun chSeq =>
  (lReadPartialFlags partial_).bind fun (pinit, pfinal) =>
  (lReadName (reliable || bOpen)).bind fun name =>
  (lReadInt maxPacketBits).bind fun nbits =>
  (lReadBitsInto data nbits).bind fun bits =>
  LRd.pure { chIndex := ch % 65536, bOpen := bOpen, bClose := bClose, bPaused := paused, bReliable := reliable,
             bExports := exports, bGuids := guids, bPartial := partial_, bPartialInitial := pinit,
             bPartialFinal := pfinal, closeReason := reason, nameIndex := name, chSeq := chSeq, packetId := 0,
             data := bits }

theorem lReadCtl_refines : Refines lReadCtl readCtl := by
  unfold lReadCtl readCtl
  refine Refines.bind lReadBit_refines fun ctl => ?_
  refine Refines.bind (Refines.ite ctl lReadBit_refines (Refines.pure false)) fun bOpen => ?_
  refine Refines.bind (Refines.ite ctl lReadBit_refines (Refines.pure false)) fun bClose => ?_
  refine Refines.bind (Refines.ite bClose (lReadInt_refines _) (Refines.pure 0)) fun reason => ?_
  exact Refines.pure _

theorem lReadSeq_refines (reliable : Bool) : Refines (lReadSeq reliable) (readSeq reliable) := by
  unfold lReadSeq readSeq
  exact Refines.ite reliable (lReadInt_refines _) (Refines.pure 0)

theorem lReadPartialFlags_refines (p : Bool) : Refines (lReadPartialFlags p) (readPartialFlags p) := by
  unfold lReadPartialFlags readPartialFlags
  refine Refines.ite p ?_ (Refines.pure _)
  exact Refines.bind lReadBit_refines fun a => Refines.bind lReadBit_refines fun b => Refines.pure _

theorem lReadName_refines (has : Bool) : Refines (lReadName has) (readName has) := by
  unfold lReadName readName
  refine Refines.ite has ?_ (Refines.pure 0)
  refine Refines.bind lReadBit_refines fun hard => ?_
  exact Refines.ite (!hard) Refines.failHere lReadIntPacked_refines

/-- **the bunch parser on the byte array**: for every datagram image and cursor (`RB b`: any array that holds the valid bits, cut right behind them if
one likes) and a data array of at least 1024 bytes (the library's is 1452), `utcp_bunch_read` touches no byte outside the two arrays, and returns exactly
what the bit-level `decodeBunch` returns on the remaining bits - the bunch, or failure, and the same cursor. -/
theorem lDecodeBunch_refines (data : Mem) (hdata : BytesOK data) (hlen : 1024 ≤ data.length) : Refines (lDecodeBunch data) decodeBunch := by
  unfold lDecodeBunch decodeBunch
  refine Refines.bind lReadCtl_refines fun ⟨bOpen, bClose, reason⟩ => ?_
  refine Refines.bind lReadBit_refines fun paused => ?_
  refine Refines.bind lReadBit_refines fun reliable => ?_
  refine Refines.bind lReadIntPacked_refines fun ch => ?_
  refine Refines.bind lReadBit_refines fun exports => ?_
  refine Refines.bind lReadBit_refines fun guids => ?_
  refine Refines.bind lReadBit_refines fun partial_ => ?_
  refine Refines.bind (lReadSeq_refines reliable) fun chSeq => ?_
  refine Refines.bind (lReadPartialFlags_refines partial_) fun ⟨pinit, pfinal⟩ => ?_
  refine Refines.bind (lReadName_refines _) fun name => ?_
  refine Refines.bind' (fun n => n < maxPacketBits) (lReadInt_refines _) (fun bs v r h => readInt_lt _ (by decide) bs v r h) fun nbits hn => ?_
  have h8192 : maxPacketBits = 8192 := by decide
  refine Refines.bind (lReadBitsInto_refines data hdata nbits (by rw [h8192] at hn; omega)) fun bits => ?_
  exact Refines.pure _

/-- **no input makes the bunch parser touch memory it does not own**: whatever the bytes, the cursor and the logical end are -/
theorem bunch_parse_never_faults (b : Buf) (hb : RB b) (data : Mem) (hdata : BytesOK data) (hlen : 1024 ≤ data.length) :
    ∃ r b', lDecodeBunch data b = some (r, b') ∧ b'.num ≤ b'.size ∧ b'.size = b.size :=
  (lDecodeBunch_refines data hdata hlen).never_faults b hb

/-- the library's data field is large enough (its extent is extracted from the source on every run) -/
theorem data_field_suffices : 1024 ≤ Gen.SIZEOF_BUNCH_DATA.toNat := by decide

/-! non-vacuity: a read buffer of three bytes with 17 valid bits -/
example : RB ⟨[0x12, 0x34, 0x01], 17, 0⟩ := ⟨by intro x hx; simp at hx; omega, by decide, by decide⟩

/-- `bitbuf_read_init` never faults: it looks at the last byte of the datagram and nowhere else, whatever the bytes are -/
theorem read_init_never_faults (data : Mem) : ∃ r, readInit data = some r := by
  rw [readInit_eq]
  split <;> exact ⟨_, rfl⟩

/-- … and what it accepts is a read buffer in the sense of the theorems above: the logical end lies inside the array -/
theorem read_init_gives_rb (data : Mem) (hd : BytesOK data) (rb : Buf) (h : readInit data = some (true, rb)) : RB rb := by
  rw [readInit_eq] at h
  split at h
  · cases h
  · cases h
    have hle : initLoop 8 (data.getD (data.length - 1) 0) (data.length * 8 - 1) ≤ 8 * data.length :=
      Nat.le_trans (initLoop_le _ _ _) (Nat.mul_comm 8 _ ▸ Nat.sub_le _ 1)
    exact ⟨hd, hle, Nat.zero_le _⟩

end Utcp.BB
