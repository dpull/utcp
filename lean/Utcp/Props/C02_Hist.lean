import Utcp.Props.C02
import Utcp.Props.C18
/-!
# C02, over every history — the receiver's register always means what the sender takes it to mean
-/
namespace Utcp.Props.C02Hist
open Utcp Utcp.Gen Utcp.Props

/-- **everything but `ReceivedPacket` is made of writes that satisfy `Keeps` or `SameN`**: a relation that contains both holds across a send,
a flush and an update -/
theorem quiet_ops {R : Conn → Conn → Prop} (refl : ∀ c, R c c) (trans : ∀ {a b c}, R a b → R b c → R a c)
    (hk : ∀ {c c'}, Keeps c c' → R c c') (hs : ∀ {c c'}, SameN c c' → R c c') (e : Env) (c : Conn) :
    (∀ b, R c (c.sendBunch e b).1) ∧ R c (c.flush e) ∧ R c (c.checkTimeout e).updateTail.1 := by
  have hB : BClosed e R := (keeps_sclosed e).toBClosed.mono refl trans hk
  have hR : RClosed R := sameN_rclosed.mono refl trans hs
  exact ⟨sendBunch_closed hB hR.toCClosed hR.create (fun c ch _ _ _ => hs (setChan_sameN c ch _))
      (fun c ch x _ hx => trans (hs (emit_sameN c _)) (hk ((keeps_sclosed e).setOut _ ch x _ hx))) c,
    hB.flush c,
    update_closed hR (howe := fun _ _ => hs ⟨rfl, rfl, rfl, rfl, rfl, rfl, rfl, rfl, rfl, rfl⟩)
      (hrm := fun _ _ => hs ⟨rfl, rfl, rfl, rfl, rfl, rfl, rfl, rfl, rfl, rfl⟩) (hbye := fun c _ => hs (emit_sameN c _)) c⟩

/-- the acknowledgement requests recorded so far: strictly increasing packet ids (newest first), none beyond the counter -/
def Requests (calls : List (Int × Bool)) (pid : Int) : Prop := (calls.map (·.1)).Pairwise (· > ·) ∧ ∀ q ∈ calls, q.1 ≤ pid

/-- **over every history** (sends valid or not, flushes, incoming packets of any bits, updates): the receiver's 256-bit register is
described by ghost lists — which packets it was asked to acknowledge, with which verdict —, the requests carry strictly increasing
packet ids up to the counter and extend those made before.  That a step adds one request per accepted packet and none otherwise is
`C02.receivedPacket_rconn`, used in the proof; the statement does not say it. -/
theorem run_rconn (ops : List (Env × C18.Op)) : ∀ (c : Conn) (tg calls : List (Int × Bool)), C02.RConn c tg calls → Requests calls c.inPacketId →
    ∃ tg' calls', C02.RConn (C18.run c ops) tg' calls' ∧ Requests calls' (C18.run c ops).inPacketId ∧ ∃ more, calls' = more ++ calls := by
  induction ops with
  | nil => intro c tg calls h hr; exact ⟨tg, calls, h, hr, [], rfl⟩
  | cons p rest ih =>
    intro c tg calls h hr
    obtain ⟨e, op⟩ := p
    have hsame : ∀ c', C02.RegSame c c' → ∃ tg' calls', C02.RConn (C18.run c' rest) tg' calls' ∧ Requests calls' (C18.run c' rest).inPacketId ∧ ∃ more, calls' = more ++ calls := by
      intro c' hs
      exact ih c' tg calls (hs.rconn h) (by rw [hs.inPacketId]; exact hr)
    obtain ⟨qsend, qflush, qupdate⟩ := quiet_ops C02.RegSame.refl C02.RegSame.trans C02.RegSame.of_keeps C02.RegSame.of_sameN e c
    cases op with
    | send b => exact hsame _ (qsend b)
    | flush => exact hsame _ qflush
    | update => exact hsame _ qupdate
    | recv bits =>
      rcases C02.receivedPacket_rconn e c bits tg calls h with ⟨h1, h2⟩ | ⟨h1, tg', refused, h2⟩
      · exact ih _ tg calls h1 (by show Requests calls (c.receivedPacket e bits).1.inPacketId; rw [h2]; exact hr)
      · have hr' : Requests (((c.receivedPacket e bits).1.inPacketId, !refused) :: calls) (c.receivedPacket e bits).1.inPacketId := by
          -- the new request is for an id beyond the counter, hence beyond every earlier request
          refine ⟨List.pairwise_cons.mpr ⟨fun a ha => ?_, hr.1⟩, h2.reg.callsLe⟩
          obtain ⟨q, hq, rfl⟩ := List.mem_map.mp ha
          exact Int.lt_of_le_of_lt (hr.2 q hq) h1
        obtain ⟨tg2, calls2, r1, r2, more, r3⟩ := ih _ tg' _ h2 hr'
        exact ⟨tg2, calls2, r1, r2, more ++ [((c.receivedPacket e bits).1.inPacketId, !refused)], by rw [r3]; simp⟩

theorem fresh_run_rconn (ops : List (Env × C18.Op)) (i o : Int) :
    ∃ tg calls, C02.RConn (C18.run (({} : Conn).seqInit i o) ops) tg calls ∧ Requests calls (C18.run (({} : Conn).seqInit i o) ops).inPacketId :=
  let ⟨tg, calls, h1, h2, _⟩ := run_rconn ops _ [] [] (C02.seqInit_rconn _ i o) ⟨by simp, by intro q hq; cases hq⟩
  ⟨tg, calls, h1, h2⟩

/-- **ACK only if accepted, at any point of any history**: whatever the receiver `R` has been through, for every delivery status
`(p, true)` a sender `c` (whose bookkeeping invariant holds) derives from a header `R` writes now — with any number of history words —
there is a packet `q = R.inPacketId - idx ≡ p (mod 2^14)` with a request `(q, true)` on `R`'s ghost list.  The list is the one `run_rconn`
builds, where `(q, true)` is added only when `ReceivedPacket` accepts `q` and refuses none of its bunches (`C02.receivedPacket_rconn`);
the statement exposes it only through `Requests`. -/
theorem ack_only_if_accepted (ops : List (Env × C18.Op)) (i o : Int) (c : Conn) (hinv : C02.Inv c) (w : Nat) :
    ∃ calls : List (Int × Bool), Requests calls (C18.run (({} : Conn).seqInit i o) ops).inPacketId ∧
      ∀ p, p ∈ C02.expected c.lastNotified (C02.ackVerdicts c ((C18.run (({} : Conn).seqInit i o) ops).notify.headerWith w)) → p.2 = true →
        ∃ idx : Nat, p.1 % 16384 = ((C18.run (({} : Conn).seqInit i o) ops).inPacketId - (idx : Int)) % 16384 ∧
          ((C18.run (({} : Conn).seqInit i o) ops).inPacketId - (idx : Int), true) ∈ calls := by
  obtain ⟨tg, calls, h1, h2⟩ := fresh_run_rconn ops i o
  refine ⟨calls, h2, ?_⟩
  intro p hp ht
  obtain ⟨idx, e1, e2, _⟩ := C02.status_exact c _ tg calls w h1 hinv p hp
  exact ⟨idx, e1, e2 ht⟩

end Utcp.Props.C02Hist
