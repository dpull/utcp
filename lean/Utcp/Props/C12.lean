import Utcp.Lemmas.BitIO
import Utcp.Lemmas.Frame
/-!
# C12 — bit-buffer primitives are exact inverses and stay inside the buffer

S-level: the primitives as functions on bit lists (`Utcp/BitIO.lean`).  A failed read is modelled with the
cursor position it leaves behind, so "leaves the cursor inside the valid range" is a statement about the
remainder returned.  The byte-array level of `bit_buffer.c` (`|=`/`+=` on a zeroed buffer, the three phases
of `appBitsCpy`, the straddling packed store, partial memory) is the subject of the continuation files
`Props/C12_Write.lean`, `Props/C12_Read.lean` and `Props/C12_Bytes.lean`, which prove that it refines the functions used here.
-/
namespace Utcp.Props.C12
open Utcp

/-- one write operation of the property's vocabulary -/
inductive Op where
  | bit (b : Bool)
  | run (bs : Bits)
  | bytes (vs : List Nat)
  | int (v mx : Nat)
  | packed (v : Nat)
  | wrapped (v k : Nat)       -- `bitbuf_write_int_wrapped` with max = 2^k
  | word (v : Nat)

/-- in-range arguments (what the C functions accept) -/
def Op.ok : Op → Prop
  | .bit _ => True
  | .run _ => True
  | .bytes vs => ∀ v ∈ vs, v < 256
  | .int v mx => v < mx ∧ mx ≤ 2 ^ 32
  | .packed v => v < 2 ^ 32
  | .wrapped _ k => k ≤ 32
  | .word v => v < 2 ^ 32

def Op.write : Op → Bits
  | .bit b => [b]
  | .run bs => bs
  | .bytes vs => vs.flatMap writeByte
  | .int v mx => writeInt v mx
  | .packed v => writeIntPacked v
  | .wrapped v k => writeIntWrapped v (2 ^ k)
  | .word v => writeU32 v

def readBytes : Nat → Rd (List Nat)
  | 0 => fun bs => .ok [] bs
  | n+1 => fun bs => match readByte bs with
    | .fail r => .fail r
    | .ok v rest => match readBytes n rest with
      | .fail r => .fail r
      | .ok vs rest => .ok (v :: vs) rest

/-- the matching read; succeeds iff it returns the written value, and yields the remainder -/
def Op.readBack (o : Op) (bs : Bits) : Option Bits :=
  match o with
  | .bit b => match readBit bs with | .ok v r => if v == b then some r else none | .fail _ => none
  | .run x => match readBits x.length bs with | .ok v r => if v == x then some r else none | .fail _ => none
  | .bytes vs => match readBytes vs.length bs with | .ok v r => if v == vs then some r else none | .fail _ => none
  | .int v mx => match readInt mx bs with | .ok x r => if x == v then some r else none | .fail _ => none
  | .packed v => match readIntPacked bs with | .ok x r => if x == v then some r else none | .fail _ => none
  | .wrapped v k => match readInt (2 ^ k) bs with | .ok x r => if x == v % 2 ^ k then some r else none | .fail _ => none
  | .word v => match readU32 bs with | .ok x r => if x == v then some r else none | .fail _ => none

def readAll : List Op → Bits → Option Bits
  | [], bs => some bs
  | o :: os, bs => match o.readBack bs with | some r => readAll os r | none => none

theorem readBytes_write (vs : List Nat) (h : ∀ v ∈ vs, v < 256) (rest : Bits) :
    readBytes vs.length (vs.flatMap writeByte ++ rest) = .ok vs rest := by
  induction vs with
  | nil => rfl
  | cons v vs ih =>
    simp only [List.flatMap_cons, List.length_cons, readBytes, List.append_assoc]
    rw [readByte_write]
    have : v % 256 = v := Nat.mod_eq_of_lt (h v List.mem_cons_self)
    simp only [this, ih (fun x hx => h x (List.mem_cons_of_mem _ hx))]

theorem op_round_trip (o : Op) (h : o.ok) (rest : Bits) : o.readBack (o.write ++ rest) = some rest := by
  cases o with
  | bit b => simp [Op.readBack, Op.write]
  | run bs => simp [Op.readBack, Op.write, readBits_append]
  | bytes vs => simp [Op.readBack, Op.write, readBytes_write vs h]
  | int v mx => simp [Op.readBack, Op.write, readInt_writeInt v mx rest h.1 h.2]
  | packed v => simp [Op.readBack, Op.write, readIntPacked_write, Nat.mod_eq_of_lt h]
  | wrapped v k => simp [Op.readBack, Op.write, readInt_wrapped_pow2 k v rest h]
  | word v => simp [Op.readBack, Op.write, readU32_write, Nat.mod_eq_of_lt h]

/-- **every sequence of writes, read back with the matching sequence of reads, returns the written values
and ends at the same bit position** (the remainder is exactly what followed the writes) -/
theorem ops_round_trip (ops : List Op) (h : ∀ o ∈ ops, o.ok) (rest : Bits) :
    readAll ops (ops.flatMap Op.write ++ rest) = some rest := by
  induction ops with
  | nil => rfl
  | cons o os ih =>
    simp only [List.flatMap_cons, List.append_assoc, readAll]
    rw [op_round_trip o (h o List.mem_cons_self)]
    exact ih (fun x hx => h x (List.mem_cons_of_mem _ hx))

/-- bounded integers: the round trip, for every `v < max ≤ 2^32` including non-powers of two -/
theorem int_round_trip (v mx : Nat) (rest : Bits) (hv : v < mx) (hmx : mx ≤ 2 ^ 32) :
    readInt mx (writeInt v mx ++ rest) = .ok v rest := readInt_writeInt v mx rest hv hmx

/-- a bounded-integer write uses `⌈log2 max⌉` bits or fewer (UE early stop) … -/
theorem int_width (v mx k : Nat) (hk : mx ≤ 2 ^ k) : (writeInt v mx).length ≤ k := writeInt_length_le v mx k hk

/-- … and the reader consumes exactly the bits the writer produced -/
theorem int_reader_consumes_same (v mx : Nat) (rest : Bits) (hv : v < mx) (hmx : mx ≤ 2 ^ 32) :
    readInt mx (writeInt v mx ++ rest) = .ok v ((writeInt v mx ++ rest).drop (writeInt v mx).length) := by
  rw [readInt_writeInt v mx rest hv hmx, List.drop_left]

/-- all 2^32 packed-integer values -/
theorem packed_round_trip (v : Nat) (hv : v < 2 ^ 32) (rest : Bits) : readIntPacked (writeIntPacked v ++ rest) = .ok v rest := by
  rw [readIntPacked_write, Nat.mod_eq_of_lt hv]

theorem packed_width (v : Nat) : (writeIntPacked v).length ≤ 40 ∧ (writeIntPacked v).length % 8 = 0 := by
  unfold writeIntPacked; exact wPacked_length 5 _

theorem readBit_empty : readBit [] = .fail [] := rfl

/-- a failed run read leaves the cursor where it was -/
theorem readBits_fail (n : Nat) (bs : Bits) (h : bs.length < n) : readBits n bs = .fail bs := Utcp.readBits_fail n bs h

/-- a failed bounded-integer read leaves the cursor where it was (`buff->num` is only written on success) -/
theorem rIntLoop_fail_start (fuel mx : Nat) (start : Bits) : ∀ mask nv bs r, rIntLoop fuel mx mask nv start bs = .fail r → r = start := by
  induction fuel with
  | zero => intro mask nv bs r h; simp [rIntLoop] at h
  | succ f ih =>
    intro mask nv bs r h
    unfold rIntLoop at h
    split at h
    · cases bs with
      | nil => simp at h; exact h.symm
      | cons b t => exact ih _ _ _ _ h
    · simp at h

theorem readInt_fail (mx : Nat) (bs r : Bits) (h : readInt mx bs = .fail r) : r = bs :=
  rIntLoop_fail_start 33 mx bs 1 0 bs r h

/-- whatever a run read returns (success or failure), the remaining bits are a suffix of the input: the cursor
never leaves the valid range (for every reader, by length: `Lemmas/Shrinks.lean`) -/
theorem readBits_suffix (n : Nat) (bs : Bits) : (∃ v r, readBits n bs = .ok v r ∧ v ++ r = bs) ∨ readBits n bs = .fail bs := by
  by_cases h : n ≤ bs.length
  · left; exact ⟨bs.take n, bs.drop n, by simp [readBits, h], List.take_append_drop n bs⟩
  · right; simp [readBits, h]

/-- framing: bytes ↔ bits is lossless, the byte count is the rounded-up bit count, and `bitbuf_read_init` recovers exactly the
written bits (that the final byte of a terminated stream is non-zero is `bitsToBytes_last_ne_zero`, `Lemmas/Frame.lean`) -/
theorem bytes_round_trip (bits : Bits) : bytesToBits (bitsToBytes bits) = bits ++ List.replicate (padLen bits.length) false :=
  bytesToBits_bitsToBytes bits
theorem byte_count (bits : Bits) : (bitsToBytes bits).length = (bits.length + 7) / 8 := bitsToBytes_length bits
theorem read_init_round_trip (bits : Bits) : readInit (bitsToBytes (bits ++ [true])) = some bits := readInit_bitsToBytes bits

/-! non-vacuity and the UE early-stop examples -/
example : writeInt 9 15 = [true, false, false, true] := by decide
example : (writeInt 7 15).length = 3 := by decide          -- 7 under max 15 needs only 3 bits
example : (Op.int 7 15).ok ∧ (Op.wrapped 1025 10).ok ∧ (Op.packed 4294967295).ok := by
  simp [Op.ok]
example : writeIntPacked 300 = natToBits 89 8 ++ natToBits 4 8 := by decide

end Utcp.Props.C12
