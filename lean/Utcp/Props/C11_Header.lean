import Utcp.Props.C12_Write
import Utcp.Conn
/-!
# C11 at the level of the byte array: the packet header writer

`packet_header_write` (with `bHasPacketInfoPayload = 0`, the only value the library sets) as the sequence of bit-buffer calls it makes: the packed word, one
`bitbuf_write_int_byte_order` per history word, the packet-info bit.  Into a zeroed buffer with room every call succeeds, touches no byte outside the buffer and
the calls together append exactly the bits of the bit-level `encodeNotifHeader` (for which `Props/C11.lean` proves the round trip).
-/
namespace Utcp.BB
open Utcp

/-- `PackedHeader_Pack` (tied to the translated C function by `Props/C11_Gen.lean`) -/
def packedWord (h : NotifHeader) : Nat := (h.seq.toNat % 16384) * 2^18 + (h.ackedSeq.toNat % 16384) * 16 + (h.words - 1) % 16

/-- `packet_header_write`: the calls of the C function in their order, for a header of `n` history words -/
def notifHeaderOps (h : NotifHeader) (n : Nat) : List LOp :=
  [LOp.word (packedWord h)] ++ (histWords n h.hist).map LOp.word ++ [LOp.bit 0]

theorem histWords_bits (n : Nat) (bs : Bits) (h : bs.length = 32 * n) : ((histWords n bs).map LOp.word).flatMap LOp.bits = bs := by
  have := words32Bits_histWords n bs (Nat.le_of_eq h.symm)
  rw [← h, List.take_length] at this
  rw [List.flatMap_map]
  exact this

theorem histWords_ok (n : Nat) (bs : Bits) : ∀ o ∈ (histWords n bs).map LOp.word, o.ok := by
  induction n generalizing bs with
  | zero => exact LOp.ok_nil
  | succ n ih =>
    have hl : (bs.take 32).length ≤ 32 := by rw [List.length_take]; exact Nat.min_le_left _ _
    exact LOp.ok_cons (Nat.lt_of_lt_of_le (bitsToNat_lt (bs.take 32)) (Nat.pow_le_pow_right (by decide) hl)) (ih _)

theorem notifHeaderOps_bits (h : NotifHeader) (n : Nat) (hl : h.hist.length = 32 * n) : (notifHeaderOps h n).flatMap LOp.bits = encodeNotifHeader h := by
  unfold notifHeaderOps encodeNotifHeader
  rw [List.flatMap_append, List.flatMap_append, histWords_bits n h.hist hl]
  simp [LOp.bits, packedWord]

theorem notifHeaderOps_ok (h : NotifHeader) (n : Nat) : ∀ o ∈ notifHeaderOps h n, o.ok :=
  have hp : packedWord h < 2 ^ 32 := by unfold packedWord; omega
  LOp.ok_append (LOp.ok_append (LOp.ok_cons hp LOp.ok_nil) (histWords_ok n h.hist)) (LOp.ok_cons trivial LOp.ok_nil)

/-- **`packet_header_write` on the byte array**: into a zeroed buffer with room, the header writer's calls all succeed, touch no byte outside the buffer and
append exactly the bits of the bit-level `encodeNotifHeader` -/
theorem write_packet_header_bytes (h : NotifHeader) (n : Nat) (hl : h.hist.length = 32 * n)
    (b : Buf) (hb : WB b) (hroom : b.num + needAll (notifHeaderOps h n) ≤ b.size) :
    ∃ b', writeAll (notifHeaderOps h n) b = some (true, b') ∧ WB b' ∧ b'.size = b.size ∧ content b' = content b ++ encodeNotifHeader h := by
  obtain ⟨b', h1, h2, h3, h4, _⟩ := writeAll_spec (notifHeaderOps h n) b (notifHeaderOps_ok h n) hb hroom
  exact ⟨b', h1, h2, h3, by rw [h4, notifHeaderOps_bits h n hl]⟩

/-- the room the header needs: 32 bits per word and the packet-info bit -/
theorem notifHeaderOps_need (h : NotifHeader) (n : Nat) : needAll (notifHeaderOps h n) = 32 * (n + 1) + 1 := by
  -- every word needs 32 bits, and there are `n` of them
  have hw : (((histWords n h.hist).map LOp.word).map LOp.need).sum = n * 32 := by
    rw [List.map_map, show LOp.need ∘ LOp.word = fun _ => 32 from rfl, List.map_const', List.sum_replicate_nat, histWords_length]
  unfold needAll notifHeaderOps
  rw [List.map_append, List.map_append, List.sum_append, List.sum_append, hw]
  simp [LOp.need_eq]
  omega

/-! non-vacuity: a header with one history word -/
example : ({ seq := 5, ackedSeq := 3, words := 1, hist := List.replicate 32 true } : NotifHeader).hist.length = 32 * 1 := by decide

end Utcp.BB
