import Utcp.Props.C20_Reorder
/-! # C18, continued: the header of a genuine datagram ahead of the counter is accepted by an in-sync peer (uses the burst lemmas of C20_Reorder) -/
namespace Utcp.Props.C20
open Utcp Utcp.Gen

/-- **a genuine data datagram ahead of the counter is accepted**: for a receiver in a burst state (`RBurst`: 14-bit receive sequence = counter mod 2^14,
nothing newly acknowledged), a data datagram whose header parses, carries the id `key` (mod 2^14) with `counter < key ≤ counter + 8191` and acknowledges what
the receiver already knows, moves the counter to exactly `key` - whatever the bunches inside it do.  In particular the next datagram in order
(`key = counter + 1`) is never refused by an in-sync peer. -/
theorem ahead_datagram_accepted {T} (tm : TimeOps T) (e : Env) (ep : Endpoint) (rng : Rng) (d : List UInt8) (key A O : Int)
    (hd : DataDg e d (key % 16384) A) (hR : RBurst A O ep)
    (hparse : ∃ bits s c rest h body, readInit d = some bits ∧ readOutgoingHeader e bits = .ok (s, c, false) rest ∧ decodePacketHeader rest.dropLast = .ok (h, body))
    (hAA : seq_num_greater_equal A A = true) (hOA : seq_num_greater_than O A = true) (hAAn : seq_num_greater_than A A = false)
    (hw : ep.c.inPacketId < key ∧ key ≤ ep.c.inPacketId + 8191) :
    (ep.incoming tm e rng d).1.c.inPacketId = key ∧ RBurst A O (ep.incoming tm e rng d).1 := by
  have hw' : ep.c.inPacketId < key ∧ key - ep.c.inPacketId < 8192 := ⟨hw.1, by omega⟩
  obtain ⟨bits, s, c, rest, hri, hro, hdec, hinc⟩ := hd.incoming tm ep rng
  obtain ⟨bits', s', c', rest', h, body, hri', hro', hdp⟩ := hparse
  rw [hri] at hri'; cases hri'
  rw [hro] at hro'; cases hro'
  obtain ⟨hs, ha⟩ := hdec h body hdp
  rw [hinc]
  -- `heard` touches neither the notification state nor the counter: `hR` holds of it as it stands
  exact receivedPacket_ahead e (heard e ep.c s c) rest.dropLast h body key A O hR hdp hs ha hOA hw'

end Utcp.Props.C20
